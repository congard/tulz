import Tulz.Proofs.Router
/- `shrink` (C13): no notify can see it, and which entries it removes, exactly.  Core Lean only. -/
namespace Tulz.Router

variable {ρ : Type}

theorem isEmpty_iff (m : Node) : m.isEmpty = true ↔ hasSubs m.subj = false ∧ m.children = [] := by
  simp [Node.isEmpty, List.isEmpty_iff]

/-! ### shrink is invisible to notify -/

section ShrinkLog
variable {α : Type} (rm : ρ → String → Bool) (a : α)

/-- an empty node delivers nothing -/
theorem notify_log_empty (q : List (Level ρ)) (qc : Level ρ) (c : Node) (h : c.isEmpty = true) :
    (notify rm a q qc c).log = [] := by
  obtain ⟨hs, hc⟩ := (isEmpty_iff c).mp h
  cases q with
  | nil =>
    rw [notify_nil_log]
    split
    · cases hsub : c.subj with
      | none => rfl
      | some l =>
        rw [hsub] at hs
        simp only [hasSubs, Subj.hasSubscriptions, Bool.not_eq_false', List.isEmpty_iff] at hs
        simp [subjLog, Subj.log, hs]
    · rfl
  | cons nxt rest => rw [notify_cons rm a nxt rest qc c (hc ▸ List.Pairwise.nil), hc]; split <;> rfl

theorem flatMap_eraseEmpty_map {β : Type} (l : List Node) (f : Node → Node) (g : Node → List β)
    (hg : ∀ c ∈ l, g (f c) = g c) (he : ∀ c : Node, c.isEmpty = true → g c = []) :
    (eraseEmpty (l.map f)).flatMap g = l.flatMap g := by
  unfold eraseEmpty
  induction l with
  | nil => rfl
  | cons x l ih =>
    have iht := ih (fun c hc => hg c (List.mem_cons_of_mem _ hc))
    simp only [List.map_cons, List.filter_cons, List.flatMap_cons]
    cases hemp : (f x).isEmpty with
    | true =>
      simp only [Bool.not_true, Bool.false_eq_true, if_false]
      rw [iht, ← hg x List.mem_cons_self, he _ hemp]; simp
    | false =>
      simp only [Bool.not_false, if_true, List.flatMap_cons]
      rw [iht, hg x List.mem_cons_self]

/-- pruning with a rewriting of the children that no notify can see is itself invisible -/
theorem notify_log_prune {n : Node} (hpw : DistinctNames n.children) {f : Node → Node} (hn : ∀ c, (f c).name = c.name)
    (hf : ∀ c ∈ n.children, ∀ q qc, (notify rm a q qc (f c)).log = (notify rm a q qc c).log)
    (q : List (Level ρ)) (qc : Level ρ) : (notify rm a q qc (prune f n)).log = (notify rm a q qc n).log := by
  cases q with
  | nil => rw [notify_nil_log, notify_nil_log, name_prune, subj_prune]
  | cons nxt rest =>
    rw [notify_cons rm a nxt rest qc _ (distinct_prune hpw hn), notify_cons rm a nxt rest qc n hpw, name_prune,
      children_prune]
    split
    · exact flatMap_eraseEmpty_map _ f _ (fun c hc => hf c hc rest nxt) (fun c hc => notify_log_empty rm a rest nxt c hc)
    · rfl

/-- **C13, first clause** for every node, level and matcher -/
theorem shrink_invisible (p : List (Level ρ)) (pc : Level ρ) (n : Node) (hwf : WF n) (q : List (Level ρ)) (qc : Level ρ) :
    (notify rm a q qc (shrink rm p pc n)).log = (notify rm a q qc n).log :=
  shrink_induct rm (P := fun _ n m => ∀ q qc, (notify rm a q qc m).log = (notify rm a q qc n).log)
    (fun _ _ _ => rfl) (fun hwf _ hn ih => notify_log_prune rm a hwf.children_pairwise hn ih) p pc n hwf q qc

end ShrinkLog

/-! ### what shrink removes, exactly -/

/-- nothing at or below `k` holds a subscription, and the pattern visits the parent of every stored key at or below `k` -/
def Dead (rm : ρ → String → Bool) (pat : List (Level ρ)) (n : Node) (k : List String) : Prop :=
  ∀ e ∈ n.flat, k <+: e.1 → hasSubs e.2 = false ∧ prefixMatch rm pat e.1.dropLast = true

/-- some stored key at or below `k` holds a subscription (the code's notion: `hasSubscriptions`) -/
def LiveAtOrBelow (n : Node) (k : List String) : Prop :=
  ∃ e ∈ n.flat, k <+: e.1 ∧ hasSubs e.2 = true

theorem Dead.mono {rm : ρ → String → Bool} {pat : List (Level ρ)} {n : Node} {k k2 : List String}
    (h : Dead rm pat n k) (hp : k <+: k2) : Dead rm pat n k2 :=
  fun e he hk => h e he (List.IsPrefix.trans hp hk)

theorem Dead.not_live {rm : ρ → String → Bool} {pat : List (Level ρ)} {n : Node} {k : List String}
    (h : Dead rm pat n k) : ¬ LiveAtOrBelow n k := by
  rintro ⟨e, he, hk, hl⟩
  rw [(h e he hk).1] at hl
  cases hl

/-- deadness of a key written relative to the node -/
theorem dead_iff (rm : ρ → String → Bool) (pat : List (Level ρ)) (n : Node) (k : List String) :
    Dead rm pat n (n.name :: k) ↔
      ∀ e ∈ rFlat n, k <+: e.1 → hasSubs e.2 = false ∧ prefixMatch rm pat (n.name :: e.1).dropLast = true := by
  simp only [Dead, flat_eq_map_rFlat n, List.forall_mem_map, List.cons_prefix_cons, true_and]

/-- a dead key other than the node's own lies below a visited node -/
theorem Dead.visited {rm : ρ → String → Bool} {pat : List (Level ρ)} {n : Node} {e : List String × Option Subj}
    (h : Dead rm pat n (n.name :: e.1)) (he : e ∈ rFlat n) (hne : e.1 ≠ []) : prefixMatch rm pat [n.name] = true := by
  have := ((dead_iff rm pat n e.1).mp h e he (List.prefix_refl _)).2
  rw [List.dropLast_cons_of_ne_nil hne] at this
  cases pat with
  | nil => simp at this
  | cons l ls => simp_all

/-- below a visited node, deadness is deadness in the child with the rest of the pattern -/
theorem dead_child {rm : ρ → String → Bool} {cur : Level ρ} {p : List (Level ρ)} {n c : Node} (hwf : WF n)
    (hm : cur.matches rm n.name = true) (hc : c ∈ n.children) (k : List String) :
    Dead rm (cur :: p) n (n.name :: c.name :: k) ↔ Dead rm p c (c.name :: k) := by
  have step : ∀ x : List String, prefixMatch rm (cur :: p) (n.name :: c.name :: x).dropLast
      = prefixMatch rm p (c.name :: x).dropLast := by
    intro x
    rw [List.dropLast_cons_of_ne_nil (List.cons_ne_nil _ _), prefixMatch_cons_cons, hm, Bool.true_and]
  rw [dead_iff, dead_iff]
  constructor
  · intro hd x hx hpre
    have := hd _ ((mem_rFlat_iff n _).mpr (.inr ⟨c, hc, x, hx, rfl⟩)) (by simpa using hpre)
    rwa [step] at this
  · intro hd e he hpre
    rcases (mem_rFlat_iff n e).mp he with rfl | ⟨c2, hc2, x, hx, rfl⟩
    · simp at hpre
    · obtain ⟨hname, hpre'⟩ := List.cons_prefix_cons.mp hpre
      cases unique_of_distinct hwf.children_pairwise hc2 hc hname.symm
      rw [step]
      exact hd x hx hpre'

/-- `m` is `c` without its dead keys: name and subject are those of `c`, and of the entries of `c` exactly the node's own
and those whose key is not dead are left -/
structure Shrunk (rm : ρ → String → Bool) (pat : List (Level ρ)) (c m : Node) : Prop where
  name : m.name = c.name
  subj : m.subj = c.subj
  mem : ∀ e, e ∈ rFlat m ↔ e ∈ rFlat c ∧ (e.1 = [] ∨ ¬ Dead rm pat c (c.name :: e.1))

section Shrunk
variable {rm : ρ → String → Bool} {pat : List (Level ρ)} {c m : Node}

/-- a node the pattern does not visit has no dead key but (possibly) its own -/
theorem Shrunk.of_unvisited (h : prefixMatch rm pat [c.name] = false) : Shrunk rm pat c c := by
  refine ⟨rfl, rfl, fun e => ⟨fun he => ⟨he, ?_⟩, fun he => he.1⟩⟩
  by_cases h1 : e.1 = []
  · exact .inl h1
  · exact .inr (fun hd => by rw [hd.visited he h1] at h; cases h)

/-- the parent erases the rewritten child iff the whole child is dead -/
theorem Shrunk.erased_iff (h : Shrunk rm pat c m) : m.isEmpty = true ↔ Dead rm pat c [c.name] := by
  rw [isEmpty_iff, h.subj, dead_iff]
  constructor
  · rintro ⟨hs, hch⟩ e he _
    rcases (mem_rFlat_iff c e).mp he with rfl | ⟨d, hd, e', he', rfl⟩
    · exact ⟨hs, by simp⟩
    · -- an entry below `c` that is not dead would have been kept below `m`, which has no children
      apply Classical.byContradiction
      intro hng
      have hkept := (h.mem _).mpr
        ⟨he, .inr (fun hd' => hng ((dead_iff rm pat c _).mp hd' _ he (List.prefix_refl _)))⟩
      rcases (mem_rFlat_iff m _).mp hkept with heq | ⟨d', hd', _⟩
      · cases heq
      · rw [hch] at hd'; cases hd'
  · intro hd
    refine ⟨(hd _ ((mem_rFlat_iff c _).mpr (.inl rfl)) (List.prefix_refl _)).1, ?_⟩
    cases hch : m.children with
    | nil => rfl
    | cons d ds =>
      -- the key of a child of `m` is kept, hence not dead, although the whole of `c` is
      exfalso
      have : ([d.name], d.subj) ∈ rFlat m :=
        (mem_rFlat_iff m _).mpr (.inr ⟨d, by rw [hch]; exact List.mem_cons_self, _, (mem_rFlat_iff d _).mpr (.inl rfl), rfl⟩)
      rcases ((h.mem _).mp this).2 with e | hnd
      · cases e
      · exact hnd ((dead_iff rm pat c _).mpr (fun e he _ => hd e he (List.nil_prefix)))

theorem Shrunk.kept_iff (h : Shrunk rm pat c m) (e : List String × Option Subj) :
    (m.isEmpty = false ∧ e ∈ rFlat m) ↔ (e ∈ rFlat c ∧ ¬ Dead rm pat c (c.name :: e.1)) := by
  rw [← Bool.not_eq_true, h.erased_iff, h.mem]
  constructor
  · rintro ⟨hne, he, hor⟩
    exact ⟨he, hor.elim (fun e1 => e1 ▸ hne) id⟩
  · rintro ⟨he, hnd⟩
    exact ⟨fun hd => hnd (hd.mono (by simp)), he, .inr hnd⟩

/-- one level of shrink -/
theorem shrunk_prune {cur : Level ρ} {p : List (Level ρ)} {n : Node} (hwf : WF n) (hm : cur.matches rm n.name = true)
    {f : Node → Node} (hf : ∀ c ∈ n.children, Shrunk rm p c (f c)) : Shrunk rm (cur :: p) n (prune f n) := by
  refine ⟨name_prune _ _, subj_prune _ _, fun e => ?_⟩
  rw [mem_rFlat_iff, mem_rFlat_iff n, subj_prune, children_prune]
  constructor
  · rintro (rfl | ⟨m, hmem, e', he', rfl⟩)
    · exact ⟨.inl rfl, .inl rfl⟩
    · obtain ⟨hmap, hne⟩ := List.mem_filter.mp hmem
      obtain ⟨c, hc, rfl⟩ := List.mem_map.mp hmap
      obtain ⟨he'c, hnd⟩ := ((hf c hc).kept_iff e').mp ⟨by simpa using hne, he'⟩
      rw [(hf c hc).name]
      exact ⟨.inr ⟨c, hc, e', he'c, rfl⟩, .inr (fun hd => hnd ((dead_child hwf hm hc _).mp hd))⟩
  · rintro ⟨rfl | ⟨c, hc, e', he', rfl⟩, hor⟩
    · exact .inl rfl
    · have hnd : ¬ Dead rm p c (c.name :: e'.1) := by
        rcases hor with e | h
        · cases e
        · exact fun hd => h ((dead_child hwf hm hc _).mpr hd)
      obtain ⟨hne, hkf⟩ := ((hf c hc).kept_iff e').mpr ⟨he', hnd⟩
      exact .inr ⟨f c, List.mem_filter.mpr ⟨List.mem_map.mpr ⟨c, hc, rfl⟩, by simpa using hne⟩, e', hkf,
        by rw [(hf c hc).name]⟩

end Shrunk

/-- **what shrink removes, exactly**, for every node and level (`C13_shrink_exact` is the root) -/
theorem shrunk_shrink (rm : ρ → String → Bool) (p : List (Level ρ)) (cur : Level ρ) (n : Node) (hwf : WF n) :
    Shrunk rm (cur :: p) n (shrink rm p cur n) :=
  shrink_induct rm Shrunk.of_unvisited (fun hwf hm _ ih => shrunk_prune hwf hm ih) p cur n hwf

/-! ### the router: the root is named `""` and matched by `rootLevel` -/

/-- router-level deadness: keys without the root level -/
def RDead (rm : ρ → String → Bool) (p : List (Level ρ)) (t : Node) (k : List String) : Prop :=
  ∀ e ∈ rFlat t, k <+: e.1 → hasSubs e.2 = false ∧ prefixMatch rm p e.1.dropLast = true

/-- some stored key at or below `k` has a subscription -/
def RLive (t : Node) (k : List String) : Prop :=
  ∃ e ∈ rFlat t, k <+: e.1 ∧ hasSubs e.2 = true

theorem RDead.not_live {rm : ρ → String → Bool} {p : List (Level ρ)} {t : Node} {k : List String}
    (h : RDead rm p t k) : ¬ RLive t k := by
  rintro ⟨e, he, hk, hl⟩
  rw [(h e he hk).1] at hl
  cases hl

theorem rDead_iff (rm : ρ → String → Bool) (p : List (Level ρ)) (t : Node) (hroot : t.name = "") (k : List String) :
    Dead rm (rootLevel :: p) t (t.name :: k) ↔ RDead rm p t k := by
  have hdl : ∀ x : List String, prefixMatch rm (rootLevel :: p) (t.name :: x).dropLast = prefixMatch rm p x.dropLast := by
    intro x
    cases x with
    | nil => simp
    | cons y ys => simp [List.dropLast_cons_of_ne_nil, root_matches rm hroot]
  simp only [dead_iff, RDead, hdl]

theorem prefixMatch_wild (rm : ρ → String → Bool) (p : List (Level ρ)) (hw : ∀ l ∈ p, ∀ s, l.matches rm s = true)
    (k : List String) (hlen : k.length ≤ p.length) : prefixMatch rm p k = true := by
  induction p generalizing k with
  | nil => cases k with
    | nil => rfl
    | cons x xs => simp at hlen
  | cons l ls ih =>
    cases k with
    | nil => rfl
    | cons x xs =>
      simp only [prefixMatch_cons_cons, Bool.and_eq_true]
      exact ⟨hw l List.mem_cons_self x, ih (fun l' hl' => hw l' (List.mem_cons_of_mem _ hl')) xs (by simpa using hlen)⟩

end Tulz.Router
