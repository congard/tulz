import Tulz.Model.ArrayStore
/-
  Lemmas for C14 (tulz::Array).  Part 1: the loops of MemExtra on blocks of the shape
  `pre ++ (middle ++ post)`; part 2: every member of `Arr`, run on the storage `ofSpec l` that
  represents a list `l`, returns the representation of what the list-level function of `Spec` returns.
-/
namespace Tulz
set_option linter.unusedSectionVars false
variable {α : Type}

/-! ### Part 1: loops -/

theorem getElem?_mid {β : Type} (pre : List β) (x : β) (rest : List β) :
    (pre ++ x :: rest)[pre.length]? = some x := by simp

theorem set_mid {β : Type} (pre : List β) (x y : β) (rest : List β) :
    (pre ++ x :: rest).set pre.length y = pre ++ y :: rest := by simp

@[simp] theorem ok_bind {ε β γ : Type} (x : β) (f : β → Except ε γ) : (Except.ok x >>= f) = f x := rfl
@[simp] theorem ok_map {ε β γ : Type} (f : β → γ) (x : β) : f <$> (Except.ok x : Except ε β) = Except.ok (f x) := rfl
@[simp] theorem pure_eq_ok {ε β : Type} (x : β) : (pure x : Except ε β) = Except.ok x := rfl
@[simp] theorem liftE_ok {β : Type} (x : β) : liftE (Except.ok x : M β) = Except.ok x := rfl
@[simp] theorem liftE_pure {β : Type} (x : β) : liftE (pure x : M β) = Except.ok x := rfl

namespace Mem

theorem construct_mid (pre rest : List (Slot α)) (v : α) :
    construct (pre ++ .raw :: rest) pre.length v = .ok (pre ++ .live v :: rest) := by
  simp only [construct, getElem?_mid, set_mid]; rfl

theorem destroy_mid (pre rest : List (Slot α)) (v : α) :
    destroy (pre ++ .live v :: rest) pre.length = .ok (pre ++ .raw :: rest) := by
  simp only [destroy, getElem?_mid, set_mid]; rfl

theorem read_mid (pre rest : List (Slot α)) (v : α) :
    read (pre ++ .live v :: rest) pre.length = .ok v := by
  simp only [read, getElem?_mid]; rfl

theorem constructAll_fill (pre post : List (Slot α)) (vs : List α) :
    constructAll (pre ++ (List.replicate vs.length .raw ++ post)) pre.length vs
      = .ok (pre ++ (vs.map .live ++ post)) := by
  induction vs generalizing pre with
  | nil => simp [constructAll]
  | cons v vs ih =>
    simp only [constructAll, List.length_cons, List.replicate_succ, List.cons_append, construct_mid, List.map_cons,
      ok_bind]
    simpa using ih (pre ++ [Slot.live v])

/-- the fill loop is the copy loop from a constant list -/
theorem constructN_eq (d : List (Slot α)) (i n : Nat) (v : α) :
    constructN d i n v = constructAll d i (List.replicate n v) := by
  induction n generalizing d i with
  | zero => rfl
  | succ n ih => simp only [constructN, constructAll, List.replicate_succ, ih]

theorem constructN_fill (pre post : List (Slot α)) (k : Nat) (v : α) :
    constructN (pre ++ (List.replicate k .raw ++ post)) pre.length k v
      = .ok (pre ++ (List.replicate k (.live v) ++ post)) := by
  simpa [constructN_eq] using constructAll_fill pre post (List.replicate k v)

theorem destroyN_live (pre post : List (Slot α)) (vs : List α) :
    destroyN (pre ++ (vs.map .live ++ post)) pre.length vs.length
      = .ok (pre ++ (List.replicate vs.length .raw ++ post)) := by
  induction vs generalizing pre with
  | nil => simp [destroyN]
  | cons v vs ih =>
    simp only [destroyN, List.length_cons, List.replicate_succ, List.cons_append, destroy_mid, List.map_cons, ok_bind]
    simpa using ih (pre ++ [(Slot.raw : Slot α)])

theorem readN_live (pre post : List (Slot α)) (vs : List α) :
    readN (pre ++ (vs.map .live ++ post)) pre.length vs.length = .ok vs := by
  induction vs generalizing pre with
  | nil => simp [readN]
  | cons v vs ih =>
    have h : readN (pre ++ .live v :: (vs.map .live ++ post)) (pre.length + 1) vs.length = .ok vs := by
      simpa using ih (pre ++ [Slot.live v])
    simp only [readN, List.length_cons, List.cons_append, read_mid, List.map_cons, ok_bind, h, pure_eq_ok]

theorem copyN_live (ps qs pd qd : List (Slot α)) (vs : List α) (hlen : pd.length = ps.length) :
    copyN (ps ++ (vs.map .live ++ qs)) (pd ++ (List.replicate vs.length .raw ++ qd)) ps.length vs.length
      = .ok (pd ++ (vs.map .live ++ qd)) := by
  induction vs generalizing ps pd with
  | nil => simp [copyN]
  | cons v vs ih =>
    simp only [copyN, List.length_cons, List.replicate_succ, List.cons_append, read_mid, List.map_cons, ok_bind]
    rw [← hlen, construct_mid, hlen]
    simpa using ih (ps ++ [Slot.live v]) (pd ++ [Slot.live v]) (by simp [hlen])

/-! corollaries for whole blocks and tails -/

theorem copyN_all (vs : List α) (qs : List (Slot α)) :
    copyN (vs.map .live ++ qs) (alloc vs.length) 0 vs.length = .ok (vs.map .live) := by
  simpa [alloc] using copyN_live [] qs [] [] vs rfl

theorem constructN_all (n : Nat) (v : α) :
    constructN (alloc n) 0 n v = .ok (List.replicate n (.live v)) := by
  simpa [alloc] using constructN_fill ([] : List (Slot α)) [] n v

theorem constructAll_all (vs : List α) :
    constructAll (alloc vs.length) 0 vs = .ok (vs.map .live) := by
  simpa [alloc] using constructAll_fill ([] : List (Slot α)) [] vs

theorem readN_all (vs : List α) : readN (vs.map .live) 0 vs.length = .ok vs := by
  simpa using readN_live ([] : List (Slot α)) [] vs

theorem constructN_tail (d : List (Slot α)) (k : Nat) (v : α) :
    constructN (d ++ List.replicate k .raw) d.length k v = .ok (d ++ List.replicate k (.live v)) := by
  simpa using constructN_fill d [] k v

theorem destroyN_tail (vs : List α) (k : Nat) (hk : k ≤ vs.length) :
    destroyN (vs.map .live) k (vs.length - k)
      = .ok ((vs.take k).map .live ++ List.replicate (vs.length - k) .raw) := by
  have h := destroyN_live ((vs.take k).map .live) [] (vs.drop k)
  simp only [List.length_map, List.length_take, List.length_drop, Nat.min_eq_left hk, List.append_nil] at h
  rwa [← List.map_append, List.take_append_drop] at h

end Mem

/-! ### Part 2: the members of `Arr` compute the list-level specification -/

/-- the storage that represents a list of element values -/
def toSlot : Option α → Slot α
  | some v => .live v
  | none => .raw

def ofSpec (l : List (Option α)) : List (Slot α) := l.map toSlot

@[simp] theorem val?_toSlot (o : Option α) : Slot.val? (toSlot o) = o := by cases o <;> rfl

@[simp] theorem ofSpec_length (l : List (Option α)) : (ofSpec l).length = l.length := by simp [ofSpec]

@[simp] theorem ofSpec_some (vs : List α) : ofSpec (vs.map some) = vs.map .live := by
  simp [ofSpec, toSlot, List.map_map, Function.comp_def]

@[simp] theorem contents_ofSpec (l : List (Option α)) : (⟨ofSpec l⟩ : Arr α).contents = l := by
  simp [Arr.contents, ofSpec, List.map_map, Function.comp_def]

@[simp] theorem contents_empty : (Arr.empty : Arr α).contents = [] := rfl

@[simp] theorem size_ofSpec (l : List (Option α)) : (⟨ofSpec l⟩ : Arr α).size = l.length := by
  simp [Arr.size]

theorem ofSpec_replicate (n : Nat) (o : Option α) : ofSpec (List.replicate n o) = List.replicate n (toSlot o) := by
  simp [ofSpec]

theorem ofSpec_append (a b : List (Option α)) : ofSpec (a ++ b) = ofSpec a ++ ofSpec b := by
  simp [ofSpec]

theorem ofSpec_take (l : List (Option α)) (n : Nat) : ofSpec (l.take n) = (ofSpec l).take n := by
  simp [ofSpec, List.map_take]

theorem ofSpec_take_some (src : List α) (n : Nat) :
    ofSpec ((src.take n).map some) = (src.map .live).take n := by
  simp only [ofSpec, List.map_map, ← List.map_take]; rfl

theorem full_exists (l : List (Option α)) (h : Spec.full l) : ∃ vs : List α, l = vs.map some := by
  induction l with
  | nil => exact ⟨[], rfl⟩
  | cons x xs ih =>
    have hx : x ≠ none := h x (by simp)
    obtain ⟨vs, hvs⟩ := ih (fun y hy => h y (by simp [hy]))
    cases x with
    | none => exact absurd rfl hx
    | some v => exact ⟨v :: vs, by simp [hvs]⟩

theorem full_map_some (vs : List α) : Spec.full (vs.map some) := by
  intro x hx; simp at hx; obtain ⟨v, _, rfl⟩ := hx; simp

theorem full_nil : Spec.full ([] : List (Option α)) := fun _ h => by cases h

theorem full_replicate {f : Option α} (n : Nat) (hf : f ≠ none) : Spec.full (List.replicate n f) :=
  fun _ hx => List.eq_of_mem_replicate hx ▸ hf

theorem full_resized {l : List (Option α)} {f : Option α} (n : Nat) (hl : Spec.full l) (hf : f ≠ none) :
    Spec.full (Spec.resized l n f) := by
  intro x hx
  rcases List.mem_append.mp hx with hx | hx
  · exact hl x (List.mem_of_mem_take hx)
  · exact full_replicate _ hf x hx

theorem full_set {l : List (Option α)} (i : Nat) (v : α) (hl : Spec.full l) : Spec.full (l.set i (some v)) := by
  intro x hx
  rcases List.mem_or_eq_of_mem_set hx with h | h
  · exact hl x h
  · simp [h]

theorem dfl_ne_none [Inhabited α] {cls : Bool} (h : cls = true) : (Spec.dfl cls : Option α) ≠ none := by
  simp [Spec.dfl, h]

@[simp] theorem plain_map_some (vs : List α) : Spec.plain (vs.map some) = vs := by
  simp [Spec.plain, List.filterMap_map]

namespace Arr
variable [Inhabited α]

theorem ofPtr_spec (cls : Bool) (src : List α) (n : Nat) (h : n ≤ src.length) :
    ofPtr cls src n = .ok ⟨ofSpec ((src.take n).map some)⟩ := by
  rw [ofSpec_take_some]
  cases cls with
  | false => simp [ofPtr, h]
  | true =>
    have hc := Mem.copyN_all (src.take n) ((src.drop n).map .live)
    rw [← List.map_append, List.take_append_drop, List.length_take, Nat.min_eq_left h] at hc
    simp [ofPtr, hc, List.map_take]

theorem ofInit_spec (vs : List α) : ofInit vs = .ok ⟨ofSpec (vs.map some)⟩ := by
  simp [ofInit, Mem.constructAll_all]

theorem ofSize_spec (cls : Bool) (n : Nat) :
    (ofSize cls n : AM (Arr α)) = .ok ⟨ofSpec (List.replicate n (Spec.dfl cls))⟩ := by
  cases cls with
  | false => simp [ofSize, initRange, ofSpec_replicate, toSlot, Spec.dfl, Mem.alloc]
  | true => simp [ofSize, initRange, ofSpec_replicate, toSlot, Spec.dfl, Mem.constructN_all]

theorem ofFill_spec (n : Nat) (v : α) : ofFill n v = .ok ⟨ofSpec (List.replicate n (some v))⟩ := by
  simp [ofFill, Mem.constructN_all, ofSpec_replicate, toSlot]

theorem copyOf_spec (cls : Bool) (l : List (Option α)) (hf : cls = true → Spec.full l) :
    copyOf cls ⟨ofSpec l⟩ = .ok ⟨ofSpec l⟩ := by
  cases cls with
  | false => simp [copyOf]
  | true =>
    obtain ⟨vs, rfl⟩ := full_exists l (hf rfl)
    have hc := Mem.copyN_all vs []
    simp only [List.append_nil] at hc
    simp [copyOf, size, hc]

theorem get_spec (l : List (Option α)) (i : Nat) (v : α) (h : l[i]? = some (some v)) :
    get ⟨ofSpec l⟩ i = .ok v := by
  have : (ofSpec l)[i]? = some (.live v) := by simp [ofSpec, h, toSlot]
  simp [get, Mem.read, this]

theorem set_spec (cls : Bool) (l : List (Option α)) (i : Nat) (v : α) (hi : i < l.length)
    (hf : cls = true → Spec.full l) :
    set cls ⟨ofSpec l⟩ i v = .ok ⟨ofSpec (l.set i (some v))⟩ := by
  have hs : (ofSpec l).set i (.live v) = ofSpec (l.set i (some v)) := by simp [ofSpec, List.map_set, toSlot]
  have hg : (ofSpec l)[i]? = some (toSlot l[i]) := by simp [ofSpec, hi]
  cases cls with
  | false => simp [set, Mem.write, hg, hs]
  | true =>
    have hne : l[i] ≠ none := hf rfl _ (List.getElem_mem hi)
    cases hx : l[i] with
    | none => exact absurd hx hne
    | some w => simp [set, Mem.assign, hg, hx, toSlot, hs]

theorem toList_spec (l : List (Option α)) (hf : Spec.full l) :
    toList ⟨ofSpec l⟩ = .ok (Spec.plain l) := by
  obtain ⟨vs, rfl⟩ := full_exists l hf
  simp [toList, size, Mem.readN_all]

theorem resized_le (l : List (Option α)) (n : Nat) (f : Option α) (h : n ≤ l.length) :
    Spec.resized l n f = l.take n := by
  simp [Spec.resized, Nat.sub_eq_zero_of_le h]

theorem resized_gt (l : List (Option α)) (n : Nat) (f : Option α) (h : l.length ≤ n) :
    Spec.resized l n f = l ++ List.replicate (n - l.length) f := by
  simp [Spec.resized, List.take_of_length_le h]

theorem resized_zero (l : List (Option α)) (f : Option α) : Spec.resized l 0 f = [] := by
  simp [Spec.resized]

theorem realloc_grow (d : List (Slot α)) (n : Nat) (h : d.length ≤ n) :
    Mem.realloc d n = d ++ List.replicate (n - d.length) .raw := by
  simp [Mem.realloc, List.take_of_length_le h]

theorem realloc_cut (a b : List (Slot α)) : Mem.realloc (a ++ b) a.length = a := by
  simp [Mem.realloc]

theorem anyLive_replicate_raw (k : Nat) : Mem.anyLive (List.replicate k (Slot.raw : Slot α)) = false := by
  simp [Mem.anyLive, Slot.isLive]

/-- `destroy(n, size)`: from `n` on no object of a class type is left, and a `realloc` to `n` elements
    then keeps the first `min size n` elements and adds a raw tail when growing -/
theorem destroyRange_spec (cls : Bool) (l : List (Option α)) (n : Nat) (hf : cls = true → Spec.full l) :
    ∃ d, destroyRange cls (ofSpec l) n l.length = .ok d ∧ (cls = true → Mem.anyLive (d.drop n) = false) ∧
      Mem.realloc d n = ofSpec (Spec.resized l n none) := by
  have hr : ofSpec (Spec.resized l n none) = (ofSpec l).take n ++ List.replicate (n - l.length) .raw := by
    simp [Spec.resized, ofSpec_append, ofSpec_take, ofSpec_replicate, toSlot]
  rw [hr]
  cases cls with
  | false => exact ⟨_, rfl, nofun, by simp [Mem.realloc]⟩
  | true =>
    obtain ⟨vs, rfl⟩ := full_exists l (hf rfl)
    rcases Nat.le_total n vs.length with hn | hn
    · -- shrinking: the elements from `n` on are destroyed
      have hlen : ((vs.take n).map Slot.live).length = n := by simp [Nat.min_eq_left hn]
      refine ⟨(vs.take n).map .live ++ List.replicate (vs.length - n) .raw,
        by simpa [destroyRange] using Mem.destroyN_tail vs n hn, fun _ => ?_, ?_⟩
      · rw [List.drop_left' hlen]; exact anyLive_replicate_raw _
      · have := realloc_cut ((vs.take n).map Slot.live) (List.replicate (vs.length - n) .raw)
        rw [hlen] at this
        simp [this, ← List.map_take, hn]
    · -- growing: the loop does not run
      refine ⟨vs.map .live, by simp [destroyRange, Nat.sub_eq_zero_of_le hn, Mem.destroyN], fun _ => ?_, ?_⟩
      · simp [List.drop_eq_nil_of_le, hn, Mem.anyLive]
      · simp [realloc_grow _ n, hn, List.take_of_length_le]

theorem reallocA_ok {cls : Bool} {d : List (Slot α)} {n : Nat} (h : cls = true → Mem.anyLive (d.drop n) = false) :
    reallocA cls d n = .ok (Mem.realloc d n) := by
  cases cls with
  | false => rfl
  | true => simp [reallocA, h rfl]

theorem destroyAll_spec (cls : Bool) (l : List (Option α)) (hf : cls = true → Spec.full l) :
    ∃ d, destroyAll cls ⟨ofSpec l⟩ = .ok d ∧ (cls = true → Mem.anyLive d = false) := by
  obtain ⟨d, hd, hl, _⟩ := destroyRange_spec cls l 0 hf
  exact ⟨d, by simp [destroyAll, hd], hl⟩

/-- initialising the new tail of a grown array -/
theorem fill_spec (l : List (Option α)) (n : Nat) (v : α) (h : l.length ≤ n) :
    Mem.constructN (ofSpec (Spec.resized l n none)) l.length (n - l.length) v
      = .ok (ofSpec (Spec.resized l n (some v))) := by
  have hc := Mem.constructN_tail (ofSpec l) (n - l.length) v
  rw [ofSpec_length] at hc
  simp [resized_gt l n _ h, ofSpec_append, ofSpec_replicate, toSlot, hc]

theorem resizeFill_spec (cls : Bool) (l : List (Option α)) (n : Nat) (v : α)
    (hf : cls = true → Spec.full l) :
    resizeFill cls ⟨ofSpec l⟩ n v = .ok ⟨ofSpec (Spec.resized l n (some v))⟩ := by
  obtain ⟨d, hd, hl, hr⟩ := destroyRange_spec cls l n hf
  simp only [size_ofSpec, resizeFill, hd, reallocA_ok hl, hr, liftE_ok, ok_bind]
  split
  · rw [fill_spec l n v (by omega)]; rfl
  · rw [resized_le l n none (by omega), resized_le l n (some v) (by omega)]; rfl

theorem resize_spec (cls : Bool) (l : List (Option α)) (n : Nat) (hf : cls = true → Spec.full l) :
    resize cls ⟨ofSpec l⟩ n = .ok ⟨ofSpec (Spec.resized l n (Spec.dfl cls))⟩ := by
  cases cls with
  | true => exact resizeFill_spec true l n default hf
  | false =>
    obtain ⟨d, hd, hl, hr⟩ := destroyRange_spec false l n hf
    simp [resize, hd, reallocA_ok hl, hr, initRange, Spec.dfl]

theorem resizeSelf_spec (cls : Bool) (l : List (Option α)) (n i : Nat) (v : α)
    (h : l[i]? = some (some v)) (hf : cls = true → Spec.full l) :
    resizeSelf cls ⟨ofSpec l⟩ n i = .ok ⟨ofSpec (Spec.resized l n (some v))⟩ := by
  simp only [resizeSelf, get_spec l i v h]
  exact resizeFill_spec cls l n v hf

end Arr
end Tulz
