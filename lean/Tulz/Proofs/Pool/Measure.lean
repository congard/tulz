import Tulz.Proofs.Pool.Ctl
/-
  Well-founded measures.
  * `measure` — a natural number that every step of the code (`Step`, i.e. everything except spurious wake-ups)
    strictly decreases in every reachable state: every run of owner program + workers is finite.
  * `stopMeasure` — a measure for the inside of `stop()` that even spurious wake-ups decrease.
  Task bodies are finite by construction of the model (`workerRunEnd` is always enabled for a running worker).
  Both are a potential of the owner's program counter plus the sum of the workers' weights: a worker-side step lowers the
  weight of its cell (`measureN_cell`, `stopMeasure_cell`), an owner step lowers the owner's potential by more than it
  adds to the workers'.
-/
namespace TPool

variable {max : Nat} {prog : List OwnerOp} {s t : State}

def wsum (f : Worker → Nat) : List Worker → Nat
  | [] => 0
  | a :: l => f a + wsum f l

theorem wsum_set {f : Worker → Nat} {ws : List Worker} {w : Nat} {a : Worker} (x : Worker) (h : ws[w]? = some a) :
    wsum f (ws.set w x) + f a = wsum f ws + f x := by
  induction ws generalizing w with
  | nil => cases h
  | cons b l ih =>
    cases w with
    | zero => cases h; simp +arith only [List.set_cons_zero, wsum]
    | succ w => simp only [List.set_cons_succ, wsum]; rw [Nat.add_assoc, ih h, Nat.add_assoc]

theorem wsum_append (f : Worker → Nat) (a b : List Worker) : wsum f (a ++ b) = wsum f a + wsum f b := by
  induction a with
  | nil => exact (Nat.zero_add _).symm
  | cons x l ih => exact (congrArg (f x + ·) ih).trans (Nat.add_assoc _ _ _).symm

/-- a notify_all adds at most `c` to the weight of each worker -/
theorem wsum_wakeAll_le {f : Worker → Nat} {c : Nat} (h : ∀ a, f (wakeAll a) ≤ f a + c) (ws : List Worker) :
    wsum f (ws.map wakeAll) ≤ wsum f ws + c * ws.length := by
  induction ws with
  | nil => exact Nat.le_refl _
  | cons a l ih =>
    have := h a
    simp only [List.map_cons, wsum, List.length_cons, Nat.mul_succ]
    omega

/-- steps still ahead of a worker before it next blocks -/
def Worker.weight : Worker → Nat
  | .exited => 0
  | .parked false => 0
  | .parked true => 1
  | .check => 1
  | .running _ => 3
  | .ran _ => 2

theorem weight_wakeAll_le (a : Worker) : (wakeAll a).weight ≤ a.weight + 1 := by
  cases a with
  | parked n => cases n <;> decide
  | _ => exact Nat.le_succ _

theorem awake_weight {wk : Worker} (h : wk.awake = true) : wk.weight = 1 := by
  cases wk with
  | check => rfl
  | parked n => cases n <;> first | rfl | cases h
  | _ => cases h

/-- potential of the owner operations still to be executed; `n` bounds the number of workers ever spawned
    (one per `start` at most), `m` is the maximum thread count -/
def opW (n m : Nat) : OwnerOp → Nat
  | .start _ => 9
  | .clear => 1
  | .stop => n + m + 4

def progW (n m : Nat) : List OwnerOp → Nat
  | [] => 0
  | op :: l => opW n m op + progW n m l

def ownerW (n m p : Nat) : Owner → Nat
  | .idle todo => progW n m todo
  | .spawn todo => progW n m todo + 5
  | .notifyOne todo => progW n m todo + 2
  | .stopNotify todo => progW n m todo + n + p + 3
  | .join rem todo => progW n m todo + rem.length + 2
  | .clearQ todo => progW n m todo + 1

/-- number of `start` operations of the whole program (executed + still to do): constant along a run -/
def total (s : State) : Nat := s.submitted.length + (tasksOf s.owner.todo).length

def measureN (n : Nat) (s : State) : Nat :=
  ownerW n s.max s.pool.length s.owner + wsum Worker.weight s.ws + 3 * s.queue.length

def measure (s : State) : Nat := measureN (total s) s

theorem measureN_cell (n : Nat) {w : Nat} {a x : Worker} {q r f d : List Task} (hw : s.ws[w]? = some a)
    (h : x.weight + 3 * q.length < a.weight + 3 * s.queue.length) :
    measureN n { s with ws := s.ws.set w x, queue := q, runs := r, finished := f, destroyed := d } < measureN n s := by
  have := wsum_set (f := Worker.weight) x hw
  simp only [measureN]
  omega

theorem measureN_decreases (n : Nat) (hmax : s.pool.length ≤ s.max) (hn : s.ws.length ≤ n) (hs : Step s t) :
    measureN n t < measureN n s := by
  cases hs with
  | start tk todo ho =>
    simp +arith only [measureN, ho, ownerW, progW, opW, List.length_append, List.length_cons, List.length_nil]
  | spawnYes todo ho hlt => simp +arith only [measureN, ho, ownerW, wsum_append, wsum, Worker.weight]
  | spawnNo todo ho hlt => simp +arith only [measureN, ho, ownerW]
  | notifyHit todo w ho hw =>
    have := wsum_set (f := Worker.weight) (.parked true) hw
    simp only [measureN, ho, ownerW, Worker.weight] at this ⊢; omega
  | notifyMiss todo ho hn' => simp +arith only [measureN, ho, ownerW]
  | clear todo ho => simp +arith only [measureN, destroyAll, ho, ownerW, progW, opW, List.length_nil]
  | stop todo ho => simp only [measureN, ho, ownerW, progW, opW]; omega
  | stopNotify todo ho =>
    have := wsum_wakeAll_le weight_wakeAll_le s.ws
    simp only [measureN, ho, ownerW]; omega
  | joinOne w rem todo ho hw => simp +arith only [measureN, ho, ownerW, List.length_cons]
  | joinDone todo ho => simp +arith only [measureN, ho, ownerW, List.length_nil]
  | stopClear todo ho => simp +arith only [measureN, destroyAll, ho, ownerW, List.length_nil]
  | workerExit w wk hw ha hr => exact measureN_cell n hw (Nat.add_lt_add_right (awake_weight ha ▸ Nat.one_pos) _)
  | workerTake w wk tk q hw ha hr hq =>
    exact measureN_cell n hw (by rw [awake_weight ha, hq]; simp only [Worker.weight, List.length_cons]; omega)
  | workerPark w wk hw ha hr hq => exact measureN_cell n hw (Nat.add_lt_add_right (awake_weight ha ▸ Nat.one_pos) _)
  | workerRunEnd w tk hw => exact measureN_cell n hw (Nat.add_lt_add_right (Nat.lt_succ_self 2) _)
  | workerDelete w tk hw => exact measureN_cell n hw (Nat.add_lt_add_right (Nat.lt_succ_self 1) _)

theorem Ctl.total_eq (C : Ctl max prog s) : total s = (tasksOf prog).length := by
  rw [← C.prog_tasks, List.length_append]; rfl

/-- every step of the code strictly decreases `measure` (in states reachable even with spurious wake-ups) -/
theorem measure_decreases (h : Reach max prog s) (hs : Step s t) : measure t < measure s := by
  have C := reach_ctl h
  have hn : s.ws.length ≤ total s := by
    have := C.spawned; unfold total; omega
  unfold measure
  rw [(ctl_step C hs).total_eq, ← C.total_eq]
  exact measureN_decreases _ C.max_ok hn hs

/-! ### inside stop() -/

/-- weight of a worker while the pool is being stopped (the flag is already false): a parked worker still has to be
    woken (by the pending notify_all or spuriously), re-check and exit -/
def Worker.sweight : Worker → Nat
  | .exited => 0
  | .parked true => 1
  | .check => 1
  | .parked false => 2
  | .ran _ => 2
  | .running _ => 3

theorem sweight_wakeAll_le (a : Worker) : (wakeAll a).sweight ≤ a.sweight + 0 := by
  cases a with
  | parked n => cases n <;> decide
  | _ => exact Nat.le_refl _

theorem awake_sweight {wk : Worker} (h : wk.awake = true) : wk.sweight = 1 := by
  cases wk with
  | check => rfl
  | parked n => cases n <;> first | rfl | cases h
  | _ => cases h

def ownerStopW (p : Nat) : Owner → Nat
  | .stopNotify _ => p + 3
  | .join rem _ => rem.length + 2
  | .clearQ _ => 1
  | _ => 0

def stopMeasure (s : State) : Nat := ownerStopW s.pool.length s.owner + wsum Worker.sweight s.ws

theorem stopMeasure_cell {w : Nat} {a x : Worker} {q r f d : List Task} (hw : s.ws[w]? = some a)
    (h : x.sweight < a.sweight) :
    stopMeasure { s with ws := s.ws.set w x, queue := q, runs := r, finished := f, destroyed := d } < stopMeasure s := by
  have := wsum_set (f := Worker.sweight) x hw
  simp only [stopMeasure]
  omega

/-- the owner's part of `stopMeasure` vanishes exactly outside `stop()` -/
theorem ownerStopW_pos (hs : inStop s) (p : Nat) : 0 < ownerStopW p s.owner := by
  rcases hs with ⟨_, ho⟩ | ⟨_, _, ho⟩ | ⟨_, ho⟩ <;> rw [ho] <;> exact Nat.succ_pos _

/-- while the owner is inside `stop()`, every step — of any thread, spurious wake-ups included — strictly
    decreases `stopMeasure` -/
theorem stopMeasure_decreases (hnr : s.running = false) (hin : inStop s) (hs : SStep s t) :
    stopMeasure t < stopMeasure s := by
  have hpos := ownerStopW_pos hin s.pool.length
  cases hs with
  | spurious w hw => exact stopMeasure_cell hw (Nat.lt_succ_self 1)
  | code hc =>
    cases hc with
    | start tk todo ho => rw [ho] at hpos; cases hpos
    | spawnYes todo ho hlt => rw [ho] at hpos; cases hpos
    | spawnNo todo ho hlt => rw [ho] at hpos; cases hpos
    | notifyHit todo w ho hw => rw [ho] at hpos; cases hpos
    | notifyMiss todo ho hn => rw [ho] at hpos; cases hpos
    | clear todo ho => rw [ho] at hpos; cases hpos
    | stop todo ho => rw [ho] at hpos; cases hpos
    | stopNotify todo ho =>
      have := wsum_wakeAll_le sweight_wakeAll_le s.ws
      simp only [stopMeasure, ho, ownerStopW]; omega
    | joinOne w rem todo ho hw => simp +arith only [stopMeasure, ho, ownerStopW, List.length_cons]
    | joinDone todo ho => simp +arith only [stopMeasure, ho, ownerStopW, List.length_nil]
    | stopClear todo ho => simp +arith only [stopMeasure, destroyAll, ho, ownerStopW]
    | workerExit w wk hw ha hr => exact stopMeasure_cell hw (awake_sweight ha ▸ Nat.one_pos)
    | workerTake w wk tk q hw ha hr hq => rw [hnr] at hr; cases hr
    | workerPark w wk hw ha hr hq => rw [hnr] at hr; cases hr
    | workerRunEnd w tk hw => exact stopMeasure_cell hw (Nat.lt_succ_self 2)
    | workerDelete w tk hw => exact stopMeasure_cell hw (Nat.lt_succ_self 1)

end TPool
