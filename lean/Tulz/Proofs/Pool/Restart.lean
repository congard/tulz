import Tulz.Proofs.Pool.Quiescent
import Tulz.Proofs.Pool.Measure
/-
  Runs (finite sequences of code steps) and the lemmas behind `C08_restart`.
-/
namespace TPool

/-- `k` consecutive steps of the code -/
inductive Run : Nat → State → State → Prop
  | refl (s) : Run 0 s s
  | step {k s t u} : Step s t → Run k t u → Run (k + 1) s u

theorem Run.reach {max prog k s u} (h : Reach max prog s) (r : Run k s u) : Reach max prog u := by
  induction r with
  | refl => exact h
  | step hs _ ih => exact ih (h.code hs)

theorem run_bounded {max prog k s u} (h : Reach max prog s) (r : Run k s u) : k + measure u ≤ measure s := by
  induction r with
  | refl => exact Nat.le_of_eq (Nat.zero_add _)
  | step hs _ ih =>
    have := measure_decreases h hs
    have := ih (h.code hs)
    omega

/-- `k` consecutive steps (of any thread, spurious wake-ups included) all taken while the owner is inside `stop()` -/
inductive StopRun : Nat → State → State → Prop
  | refl (s) : StopRun 0 s s
  | step {k s t u} : inStop s → SStep s t → StopRun k t u → StopRun (k + 1) s u

theorem stopRun_bounded {max prog k s u} (h : Reach max prog s) (r : StopRun k s u) : k + stopMeasure u ≤ stopMeasure s := by
  induction r with
  | refl => exact Nat.le_of_eq (Nat.zero_add _)
  | step hin hs _ ih =>
    have := stopMeasure_decreases ((reach_ctl h).inStop_not_running hin) hin hs
    have := ih (Reach.step h hs)
    omega

/-! ### restart after stop -/

variable {s u : State}

/-- state after the queue critical section of `start t` -/
def afterStart (s : State) (t : Task) (todo : List OwnerOp) : State :=
  { s with queue := s.queue ++ [t], running := true, owner := .spawn todo, submitted := s.submitted ++ [t], stopped := false }

/-- state after the pool critical section of a `start` that spawns -/
def afterSpawn (s : State) (todo : List OwnerOp) : State :=
  { s with pool := s.pool ++ [s.ws.length], ws := s.ws ++ [.check], owner := .notifyOne todo }

/-- while every worker thread has exited only the owner can move (`Step.mover`), and not even a spurious wake-up is possible -/
theorem only_owner (hex : ∀ (w : Nat) (wk : Worker), s.ws[w]? = some wk → wk = .exited) (hs : SStep s u) :
    ∃ woken, ownerStep? s woken = some u := by
  cases hs with
  | spurious w hw => cases hex w _ hw
  | code hc =>
    rcases hc.mover with h | ⟨w, wk, hw, ha, _⟩
    · exact h
    · rw [hex w wk hw] at ha; cases ha

theorem only_start {t : Task} {todo : List OwnerOp} (hex : ∀ (w : Nat) (wk : Worker), s.ws[w]? = some wk → wk = .exited)
    (ho : s.owner = .idle (.start t :: todo)) (hs : SStep s u) : u = afterStart s t todo := by
  obtain ⟨woken, h⟩ := only_owner hex hs
  unfold ownerStep? at h
  rw [ho] at h
  cases woken <;> cases h
  rfl

theorem only_spawn {todo : List OwnerOp} (hex : ∀ (w : Nat) (wk : Worker), s.ws[w]? = some wk → wk = .exited)
    (ho : s.owner = .spawn todo) (hlt : s.pool.length < s.max) (hs : SStep s u) : u = afterSpawn s todo := by
  obtain ⟨woken, h⟩ := only_owner hex hs
  unfold ownerStep? at h
  rw [ho] at h
  cases woken with
  | some w => cases h
  | none => exact Option.some.inj (h.symm.trans (if_pos hlt))

/-! ### programs that only submit: nothing is ever dropped -/

def startsOnly (todo : List OwnerOp) : Prop := ∀ op ∈ todo, ∃ t, op = OwnerOp.start t

/-- the owner is outside `stop()` and the rest of its program consists of `start`s -/
def Owner.submitting : Owner → Prop
  | .idle todo | .spawn todo | .notifyOne todo => startsOnly todo
  | _ => False

theorem submitting_step (hS : s.owner.submitting) (hs : Step s u) : u.owner.submitting ∧ u.dropped = s.dropped := by
  cases hs with
  | start tk todo ho => rw [ho] at hS; exact ⟨fun op hop => hS op (List.mem_cons_of_mem _ hop), rfl⟩
  | spawnYes todo ho hlt => rw [ho] at hS; exact ⟨hS, rfl⟩
  | spawnNo todo ho hlt => rw [ho] at hS; exact ⟨hS, rfl⟩
  | notifyHit todo w ho hw => rw [ho] at hS; exact ⟨hS, rfl⟩
  | notifyMiss todo ho hn => rw [ho] at hS; exact ⟨hS, rfl⟩
  | clear todo ho => rw [ho] at hS; obtain ⟨_, h⟩ := hS .clear List.mem_cons_self; cases h
  | stop todo ho => rw [ho] at hS; obtain ⟨_, h⟩ := hS .stop List.mem_cons_self; cases h
  | stopNotify todo ho => rw [ho] at hS; exact hS.elim
  | joinOne w rem todo ho hw => rw [ho] at hS; exact hS.elim
  | joinDone todo ho => rw [ho] at hS; exact hS.elim
  | stopClear todo ho => rw [ho] at hS; exact hS.elim
  | workerExit w wk hw ha hr => exact ⟨hS, rfl⟩
  | workerTake w wk tk q hw ha hr hq => exact ⟨hS, rfl⟩
  | workerPark w wk hw ha hr hq => exact ⟨hS, rfl⟩
  | workerRunEnd w tk hw => exact ⟨hS, rfl⟩
  | workerDelete w tk hw => exact ⟨hS, rfl⟩

theorem submitting_run {k : Nat} (hS : s.owner.submitting) (r : Run k s u) : u.dropped = s.dropped := by
  induction r with
  | refl => rfl
  | step hs _ ih =>
    have := submitting_step hS hs
    rw [ih this.1, this.2]

end TPool
