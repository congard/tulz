import Tulz.Proofs.Pool.Ctl
/-
  The history invariant `Hist`: three conservation laws between the ghost lists, the queue and the workers' hands,
  plus the dequeue order.  C07's statements about single tasks are read off them.
-/
namespace TPool

def Worker.task? : Worker → Option Task
  | .running t => some t
  | .ran t => some t
  | _ => none

def hands (ws : List Worker) : List Task := ws.filterMap Worker.task?

def Worker.running? : Worker → Option Task
  | .running t => some t
  | _ => none

/-- the tasks whose bodies are being executed -/
def running (ws : List Worker) : List Task := ws.filterMap Worker.running?

/-- The laws are stated for the number of occurrences `l.count t` of each task, the form in which a step is checked
    (both sides change by the same amount).  `owned`: where the object is, i.e. `(queue ++ hands ++ destroyed) ~ submitted`;
    `exec`: a started run is going on or has ended; `fate`: a submission is still queued, was dequeued to run, or was
    dropped by clear()/stop().  None of this depends on the submitted tasks being distinct. -/
structure Hist (s : State) : Prop where
  fifo : (s.runs ++ s.queue).Sublist s.submitted
  dropped_sub : s.dropped.Sublist s.destroyed
  owned : ∀ t, s.queue.count t + (hands s.ws).count t + s.destroyed.count t = s.submitted.count t
  exec : ∀ t, (running s.ws).count t + s.finished.count t = s.runs.count t
  fate : ∀ t, s.queue.count t + s.runs.count t + s.dropped.count t = s.submitted.count t

variable {max : Nat} {prog : List OwnerOp} {s t : State}

theorem awake_task_none {wk : Worker} (h : wk.awake = true) : wk.task? = none := by
  cases wk with
  | parked n => rfl
  | check => rfl
  | _ => cases h

theorem running?_of_task?_none {wk : Worker} (h : wk.task? = none) : wk.running? = none := by
  cases wk <;> first | rfl | cases h

/-- a cell without a task replaced by another such -/
theorem hands_set_idle {ws : List Worker} {w : Nat} {a : Worker} (x : Worker) (hw : ws[w]? = some a)
    (ha : a.task? = none) (hx : x.task? = none) : hands (ws.set w x) = hands ws ∧ running (ws.set w x) = running ws :=
  ⟨List.filterMap_set_eq _ hw (hx.trans ha.symm),
   List.filterMap_set_eq _ hw ((running?_of_task?_none hx).trans (running?_of_task?_none ha).symm)⟩

theorem count_hands_set {ws : List Worker} {w : Nat} {a : Worker} (x : Worker) (hw : ws[w]? = some a) (t : Task) :
    (hands (ws.set w x)).count t + a.task?.toList.count t = (hands ws).count t + x.task?.toList.count t :=
  List.count_filterMap_set _ x hw t

theorem count_running_set {ws : List Worker} {w : Nat} {a : Worker} (x : Worker) (hw : ws[w]? = some a) (t : Task) :
    (running (ws.set w x)).count t + a.running?.toList.count t = (running ws).count t + x.running?.toList.count t :=
  List.count_filterMap_set _ x hw t

theorem running_sublist_hands (ws : List Worker) : (running ws).Sublist (hands ws) := by
  induction ws with
  | nil => exact List.Sublist.refl _
  | cons a l ih =>
    unfold running hands at *
    rw [List.filterMap_cons_toList, List.filterMap_cons_toList]
    cases a <;> first | exact ih | exact ih.cons_cons _ | exact ih.cons _

/-- the steps that neither move a task nor touch a ghost list -/
theorem Hist.frame (H : Hist s) {ws : List Worker} {o : Owner} {r st : Bool} {p : List Nat}
    (hw : hands ws = hands s.ws ∧ running ws = running s.ws) :
    Hist { s with ws := ws, owner := o, running := r, pool := p, stopped := st } :=
  ⟨H.fifo, H.dropped_sub, hw.1 ▸ H.owned, hw.2 ▸ H.exec, H.fate⟩

/-- `clear()`, also as the last step of `stop()` -/
theorem Hist.clear (H : Hist s) {o : Owner} {st : Bool} : Hist { destroyAll s with owner := o, stopped := st } := by
  refine ⟨(List.Sublist.append_left (List.nil_sublist _) _).trans H.fifo, H.dropped_sub.append_right _, fun a => ?_,
    H.exec, fun a => ?_⟩
  · simp +arith only [destroyAll, List.count_append, List.count_nil, ← H.owned a]
  · simp +arith only [destroyAll, List.count_append, List.count_nil, ← H.fate a]

theorem hist_step (H : Hist s) (h : Step s t) : Hist t := by
  cases h with
  | start tk todo ho =>
    refine ⟨?_, H.dropped_sub, fun a => ?_, H.exec, fun a => ?_⟩
    · show (s.runs ++ (s.queue ++ [tk])).Sublist (s.submitted ++ [tk])
      rw [← List.append_assoc]; exact H.fifo.append_right _
    · simp +arith only [List.count_append, ← H.owned a]
    · simp +arith only [List.count_append, ← H.fate a]
  | spawnYes todo ho hlt =>
    exact H.frame ⟨List.filterMap_append.trans (List.append_nil _), List.filterMap_append.trans (List.append_nil _)⟩
  | spawnNo todo ho hlt => exact H.frame ⟨rfl, rfl⟩
  | notifyHit todo w ho hw => exact H.frame (hands_set_idle _ hw rfl rfl)
  | notifyMiss todo ho hn => exact H.frame ⟨rfl, rfl⟩
  | clear todo ho => exact H.clear
  | stop todo ho => exact H.frame ⟨rfl, rfl⟩
  | stopNotify todo ho =>
    have e1 : Worker.task? ∘ wakeAll = Worker.task? := by funext w; cases w <;> rfl
    have e2 : Worker.running? ∘ wakeAll = Worker.running? := by funext w; cases w <;> rfl
    exact H.frame ⟨List.filterMap_map.trans (by rw [e1]; rfl), List.filterMap_map.trans (by rw [e2]; rfl)⟩
  | joinOne w rem todo ho hw => exact H.frame ⟨rfl, rfl⟩
  | joinDone todo ho => exact H.frame ⟨rfl, rfl⟩
  | stopClear todo ho => exact H.clear
  | workerExit w wk hw ha hr => exact H.frame (hands_set_idle _ hw (awake_task_none ha) rfl)
  | workerPark w wk hw ha hr hq => exact H.frame (hands_set_idle _ hw (awake_task_none ha) rfl)
  | workerTake w wk tk q hw ha hr hq =>
    have hq' : s.queue = [tk] ++ q := hq
    have hw0 := awake_task_none ha
    refine ⟨?_, H.dropped_sub, fun a => ?_, fun a => ?_, fun a => ?_⟩
    · show (s.runs ++ [tk] ++ q).Sublist s.submitted
      have := H.fifo; rw [hq', ← List.append_assoc] at this; exact this
    · have h := count_hands_set (.running tk) hw a
      rw [hw0] at h
      simp +arith only [← H.owned a, hq', List.count_append]
      exact h
    · have h := count_running_set (.running tk) hw a
      rw [running?_of_task?_none hw0] at h
      simp +arith only [← H.exec a, List.count_append]
      exact h
    · simp +arith only [← H.fate a, hq', List.count_append]
  | workerRunEnd w tk hw =>
    refine ⟨H.fifo, H.dropped_sub, fun a => ?_, fun a => ?_, H.fate⟩
    · show _ + (hands (s.ws.set w (.ran tk))).count a + _ = _
      rw [show hands (s.ws.set w (.ran tk)) = hands s.ws from List.filterMap_set_eq _ hw rfl]; exact H.owned a
    · simp +arith only [← H.exec a, List.count_append]
      exact count_running_set (.ran tk) hw a
  | workerDelete w tk hw =>
    refine ⟨H.fifo, H.dropped_sub.trans (List.sublist_append_left _ _), fun a => ?_, fun a => ?_, H.fate⟩
    · simp +arith only [← H.owned a, List.count_append]
      exact count_hands_set .check hw a
    · show (running (s.ws.set w .check)).count a + _ = _
      rw [show running (s.ws.set w .check) = running s.ws from List.filterMap_set_eq _ hw rfl]; exact H.exec a

theorem reach_hist (h : Reach max prog s) : Hist s := by
  induction h with
  | init => exact ⟨List.Sublist.refl _, List.Sublist.refl _, fun _ => rfl, fun _ => rfl, fun _ => rfl⟩
  | step _ hs ih =>
    cases hs with
    | code hc => exact hist_step ih hc
    | spurious w hw => exact ih.frame (hands_set_idle _ hw rfl rfl)

/-! ### what the laws say when the owner submits distinct task objects -/

theorem Hist.owned_perm (H : Hist s) : (s.queue ++ hands s.ws ++ s.destroyed).Perm s.submitted :=
  List.perm_iff_count.2 fun t => by rw [List.count_append, List.count_append]; exact H.owned t

theorem Hist.exec_perm (H : Hist s) : (running s.ws ++ s.finished).Perm s.runs :=
  List.perm_iff_count.2 fun t => by rw [List.count_append]; exact H.exec t

theorem Hist.fate_perm (H : Hist s) : (s.queue ++ s.runs ++ s.dropped).Perm s.submitted :=
  List.perm_iff_count.2 fun t => by rw [List.count_append, List.count_append]; exact H.fate t

theorem Ctl.submitted_nodup (C : Ctl max prog s) (hp : (tasksOf prog).Nodup) : s.submitted.Nodup := by
  rw [← C.prog_tasks] at hp; exact (List.nodup_append.1 hp).1

/-- queue, hands and destroyed are duplicate-free and pairwise disjoint -/
theorem Hist.nodup_all (H : Hist s) (hn : s.submitted.Nodup) : (s.queue ++ hands s.ws ++ s.destroyed).Nodup :=
  H.owned_perm.nodup_iff.2 hn

theorem mem_hands {ws : List Worker} {w : Nat} {wk : Worker} {t : Task} (hw : ws[w]? = some wk) (ht : wk.task? = some t) :
    t ∈ hands ws :=
  List.mem_filterMap.2 ⟨wk, List.mem_of_getElem? hw, ht⟩

/-- a destroyed task is neither queued nor in anybody's hands -/
theorem Hist.destroyed_excl (H : Hist s) (hn : s.submitted.Nodup) {t : Task} (ht : t ∈ s.destroyed) :
    t ∉ s.queue ∧ t ∉ hands s.ws :=
  have hd := (List.nodup_append.1 (H.nodup_all hn)).2.2
  ⟨fun hq => hd t (List.mem_append_left _ hq) t ht rfl, fun hh => hd t (List.mem_append_right _ hh) t ht rfl⟩

/-- a destroyed task that ever started has finished: its run is not going on, since it is in nobody's hands -/
theorem Hist.destroyed_ok (H : Hist s) (hn : s.submitted.Nodup) {t : Task} (hd : t ∈ s.destroyed) (hr : t ∈ s.runs) :
    t ∈ s.finished :=
  (List.mem_append.1 (H.exec_perm.mem_iff.2 hr)).resolve_left
    fun h => (H.destroyed_excl hn hd).2 ((running_sublist_hands _).subset h)

theorem hands_eq_nil {ws : List Worker} (h : ∀ (w : Nat) (wk : Worker), ws[w]? = some wk → wk.task? = none) :
    hands ws = [] :=
  List.filterMap_eq_nil_iff.2 fun wk hwk =>
    have ⟨i, hi, e⟩ := List.getElem_of_mem hwk
    h i wk (e ▸ List.getElem?_eq_getElem hi)

/-- with nothing queued and nothing in a worker's hands the laws say: every submitted task has been destroyed, every
    started run has ended, and every submission was either run or dropped -/
theorem Hist.at_rest (H : Hist s) (hq : s.queue = []) (hh : hands s.ws = []) :
    s.destroyed.Perm s.submitted ∧ s.finished.Perm s.runs ∧ (s.runs ++ s.dropped).Perm s.submitted := by
  have h1 := H.owned_perm
  have h2 := H.exec_perm
  have h3 := H.fate_perm
  rw [hq, hh] at h1
  have hr : running s.ws = [] := List.sublist_nil.1 (hh ▸ running_sublist_hands s.ws)
  rw [hr] at h2
  rw [hq] at h3
  exact ⟨h1, h2, h3⟩

end TPool
