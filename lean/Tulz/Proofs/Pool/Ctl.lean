import Tulz.Model.Pool
import Tulz.Proofs.ListSet
/-
  The control invariant `Ctl`: what the flag, the pool, the program bookkeeping and the workers' states satisfy, stated
  per program counter of the owner (`OwnerAt`).  It needs no hypothesis on the program or on `max`; the flat
  invariants `StopInv` and `Quies` are read off it.
-/
namespace TPool

def Owner.todo : Owner → List OwnerOp
  | .idle l | .spawn l | .notifyOne l | .stopNotify l | .join _ l | .clearQ l => l

def tasksOf : List OwnerOp → List Task
  | [] => []
  | .start t :: l => t :: tasksOf l
  | _ :: l => tasksOf l

def Worker.active : Worker → Bool
  | .check => true
  | .parked true => true
  | .running _ => true
  | .ran _ => true
  | _ => false

def spawnPending : Owner → Nat
  | .spawn _ => 1
  | _ => 0

/-- no worker is blocked in `wait` without a pending notification -/
def NoSleeper (ws : List Worker) : Prop := ∀ w : Nat, ws[w]? ≠ some (Worker.parked false)

def SomeActive (ws : List Worker) : Prop := ∃ (w : Nat) (wk : Worker), ws[w]? = some wk ∧ wk.active = true

theorem active_set {ws : List Worker} {w : Nat} {a x : Worker} (hw : ws[w]? = some a)
    (h : (∃ (w' : Nat) (wk : Worker), ws[w']? = some wk ∧ wk.active = true)) (hx : x.active = true ∨ a.active = false) :
    ∃ (w' : Nat) (wk : Worker), (ws.set w x)[w']? = some wk ∧ wk.active = true := by
  obtain ⟨w', wk, hw', ha⟩ := h
  by_cases e : w = w'
  · subst e
    rw [hw] at hw'; cases hw'
    rcases hx with hx | hx
    · exact ⟨w, x, List.getElem?_set_self_of_some x hw, hx⟩
    · rw [ha] at hx; cases hx
  · exact ⟨w', wk, by rw [List.getElem?_set_ne e]; exact hw', ha⟩

theorem someActive_set {ws : List Worker} {w : Nat} {a x : Worker} (hw : ws[w]? = some a) (hx : x.active = true) :
    SomeActive (ws.set w x) :=
  ⟨w, x, List.getElem?_set_self_of_some x hw, hx⟩

/-- a worker thread has returned, or is asleep, or can take a step -/
theorem Worker.exited_or_asleep_or_active (wk : Worker) : wk = .exited ∨ wk = .parked false ∨ wk.active = true := by
  cases wk with
  | exited => exact Or.inl rfl
  | parked n => cases n <;> first | exact Or.inr (Or.inl rfl) | exact Or.inr (Or.inr rfl)
  | _ => exact Or.inr (Or.inr rfl)

theorem awake_ne_exited {wk : Worker} (h : wk.awake = true) : wk ≠ .exited := by
  intro e; subst e; cases h

/-- the assertion at each program counter of the owner.  `idle`: between two operations a cleared flag means that the
    last operation was `stop()`; while the pool runs a queued task has an active worker to get to it (C07, no lost task).
    `join`/`clearQ`: past the `notify_all` of `stop()` nobody can go (back) to sleep, because the flag was cleared under
    the mutex that guards the wait predicate. -/
def OwnerAt (s : State) : Owner → Prop
  | .idle _ => (s.running = false → s.stopped = true) ∧
      (0 < s.max → s.running = true → s.queue ≠ [] → SomeActive s.ws)
  | .spawn _ => s.running = true ∧ s.stopped = false
  | .notifyOne _ => s.running = true ∧ s.stopped = false ∧ (0 < s.max → s.pool ≠ [])
  | .stopNotify _ => s.running = false
  | .join rem _ => s.running = false ∧ NoSleeper s.ws ∧ (∀ w ∈ rem, w ∈ s.pool) ∧
      ∀ w ∈ s.pool, w ∈ rem ∨ s.ws[w]? = some .exited
  | .clearQ _ => s.running = false ∧ NoSleeper s.ws ∧ s.pool = []

structure Ctl (max : Nat) (prog : List OwnerOp) (s : State) : Prop where
  max_eq : s.max = max
  pool_idx : ∀ w ∈ s.pool, w < s.ws.length
  outside : ∀ (w : Nat) (wk : Worker), s.ws[w]? = some wk → w ∉ s.pool → wk = .exited
  max_ok : s.pool.length ≤ s.max
  alive : s.running = true → ∀ w ∈ s.pool, s.ws[w]? ≠ some Worker.exited
  stopped_ok : s.stopped = true → s.running = false ∧ s.pool = [] ∧ s.queue = []
  prog_tasks : s.submitted ++ tasksOf s.owner.todo = tasksOf prog
  spawned : s.ws.length + spawnPending s.owner ≤ s.submitted.length
  at_owner : OwnerAt s s.owner

variable {max : Nat} {prog : List OwnerOp} {s t : State}

theorem ctl_init (max prog) : Ctl max prog (init max prog) :=
  ⟨rfl, fun _ h => (nomatch h), fun _ _ h => (by cases h), Nat.zero_le _, fun _ _ h => (nomatch h), nofun,
   rfl, Nat.le_refl _, nofun, fun _ _ h => absurd rfl h⟩

theorem Ctl.at {o : Owner} (C : Ctl max prog s) (ho : s.owner = o) : OwnerAt s o := ho ▸ C.at_owner

/-- a worker that is not `exited` belongs to the pool -/
theorem Ctl.in_pool (C : Ctl max prog s) {w : Nat} {wk : Worker} (hw : s.ws[w]? = some wk) (hne : wk ≠ .exited) :
    w ∈ s.pool :=
  Classical.byContradiction fun h => hne (C.outside w wk hw h)

/-- the worker-side steps and the spurious wake-up: cell `w` goes from `a` to `x`; queue and ghost lists may change -/
theorem Ctl.cell (C : Ctl max prog s) {w : Nat} {a x : Worker} {q r f d : List Task} (hw : s.ws[w]? = some a)
    (ha : a ≠ .exited) (hq : q = s.queue ∨ s.running = true)
    (hsleep : x = .parked false → s.running = true) (hexit : x = .exited → s.running = false)
    (hact : x.active = true ∨ q = [] ∨ s.running = false) :
    Ctl max prog { s with ws := s.ws.set w x, queue := q, runs := r, finished := f, destroyed := d } := by
  have hin := C.in_pool hw ha
  have hcell : ∀ {w' : Nat} {wk : Worker}, (s.ws.set w x)[w']? = some wk → (w' = w ∧ wk = x) ∨ s.ws[w']? = some wk :=
    fun h => (List.getElem?_set_cases h).imp id And.right
  have hsl : s.running = false → NoSleeper s.ws → NoSleeper (s.ws.set w x) := by
    intro hf hn w' h
    rcases hcell h with ⟨_, e⟩ | h
    · rw [hsleep e.symm] at hf; cases hf
    · exact hn w' h
  refine ⟨C.max_eq, ?_, ?_, C.max_ok, ?_, ?_, C.prog_tasks, ?_, ?_⟩
  · show ∀ w' ∈ s.pool, w' < (s.ws.set w x).length
    rw [List.length_set]; exact C.pool_idx
  · intro w' wk h hnp
    rcases hcell h with ⟨e, _⟩ | h
    · rw [e] at hnp; exact absurd hin hnp
    · exact C.outside w' wk h hnp
  · intro hrun w' hw' h
    rcases hcell h with ⟨_, e⟩ | h
    · rw [hexit e.symm] at hrun; cases hrun
    · exact C.alive hrun w' hw' h
  · intro h
    have := C.stopped_ok h
    refine ⟨this.1, this.2.1, ?_⟩
    rcases hq with hq | hq
    · rw [hq]; exact this.2.2
    · rw [this.1] at hq; cases hq
  · show (s.ws.set w x).length + _ ≤ _
    rw [List.length_set]; exact C.spawned
  · have A := C.at_owner
    show OwnerAt _ s.owner
    cases hso : s.owner with
    | idle todo =>
      rw [hso] at A
      refine ⟨A.1, fun _ hrun hne => ?_⟩
      rcases hact with hx | hx | hx
      · exact someActive_set hw hx
      · exact absurd hx hne
      · rw [hx] at hrun; cases hrun
    | spawn todo => rw [hso] at A; exact A
    | notifyOne todo => rw [hso] at A; exact A
    | stopNotify todo => rw [hso] at A; exact A
    | join rem todo =>
      rw [hso] at A
      obtain ⟨h1, h2, h3, h4⟩ := A
      refine ⟨h1, hsl h1 h2, h3, fun w' hw' => (h4 w' hw').imp id fun h => ?_⟩
      have hne' : w ≠ w' := by intro e; subst e; rw [hw] at h; cases h; exact ha rfl
      show (s.ws.set w x)[w']? = _
      rw [List.getElem?_set_ne hne']; exact h
    | clearQ todo => rw [hso] at A; exact ⟨A.1, hsl A.1 A.2.1, A.2.2⟩

theorem getElem?_map_wakeAll {ws : List Worker} {w : Nat} {wk : Worker} (h : (ws.map wakeAll)[w]? = some wk) :
    ∃ q, ws[w]? = some q ∧ wk = wakeAll q := by
  rw [List.getElem?_map] at h
  cases hq : ws[w]? with
  | none => rw [hq] at h; cases h
  | some q => rw [hq] at h; cases h; exact ⟨q, rfl, rfl⟩

theorem ctl_step (C : Ctl max prog s) (h : Step s t) : Ctl max prog t := by
  have A := C.at_owner
  have hpt := C.prog_tasks
  have hsp := C.spawned
  cases h with
  | start tk todo ho =>
    rw [ho] at A hpt hsp
    refine ⟨C.max_eq, C.pool_idx, C.outside, C.max_ok, ?_, nofun, ?_, ?_, ⟨rfl, rfl⟩⟩
    · intro _ w hw
      cases hr : s.running with
      | true => exact C.alive hr w hw
      | false => rw [(C.stopped_ok (A.1 hr)).2.1] at hw; cases hw
    · show (s.submitted ++ [tk]) ++ tasksOf todo = tasksOf prog
      rw [List.append_assoc]; exact hpt
    · show s.ws.length + 1 ≤ (s.submitted ++ [tk]).length
      rw [List.length_append]; exact Nat.add_le_add_right hsp 1
  | spawnYes todo ho hlt =>
    rw [ho] at A hpt hsp
    refine ⟨C.max_eq, ?_, ?_, ?_, ?_, ?_, hpt, ?_, ⟨A.1, A.2, ?_⟩⟩
    · intro w hw
      show w < (s.ws ++ [Worker.check]).length
      rw [List.length_append]
      rcases List.mem_append.1 hw with hw | hw
      · exact Nat.lt_add_right 1 (C.pool_idx w hw)
      · rw [List.mem_singleton.1 hw]; exact Nat.lt_succ_self _
    · intro w wk hw hnp
      rcases Nat.lt_or_ge w s.ws.length with hlt' | hge
      · exact C.outside w wk ((List.getElem?_append_left hlt').symm.trans hw) fun h => hnp (List.mem_append_left _ h)
      · -- beyond the new cell, which is in the pool
        have hne : s.ws.length ≠ w := fun e => hnp (List.mem_append_right _ (List.mem_singleton.2 e.symm))
        have : (s.ws ++ [Worker.check])[w]? = none :=
          List.getElem?_eq_none (by rw [List.length_append]; exact Nat.lt_of_le_of_ne hge hne)
        exact nomatch this.symm.trans hw
    · show (s.pool ++ [s.ws.length]).length ≤ s.max
      rw [List.length_append]; exact hlt
    · intro hr w hw
      show (s.ws ++ [Worker.check])[w]? ≠ some Worker.exited
      rcases List.mem_append.1 hw with h1 | h1
      · rw [List.getElem?_append_left (C.pool_idx w h1)]; exact C.alive hr w h1
      · rw [List.mem_singleton.1 h1, List.getElem?_concat_length]; exact nofun
    · exact fun h => nomatch A.2.symm.trans h
    · show (s.ws ++ [Worker.check]).length + 0 ≤ s.submitted.length
      rw [List.length_append]; exact hsp
    · intro _ h'; exact List.append_ne_nil_of_right_ne_nil _ (List.cons_ne_nil _ _) h'
  | spawnNo todo ho hlt =>
    rw [ho] at A hpt hsp
    refine ⟨C.max_eq, C.pool_idx, C.outside, C.max_ok, C.alive, C.stopped_ok, hpt, Nat.le_of_succ_le hsp, ⟨A.1, A.2, ?_⟩⟩
    intro h0 hp
    rw [hp] at hlt; exact hlt h0
  | notifyHit todo w ho hw =>
    rw [ho] at A hpt hsp
    have C' := C.cell (x := .parked true) (q := s.queue) (r := s.runs) (f := s.finished) (d := s.destroyed) hw
      nofun (Or.inl rfl) nofun nofun (Or.inl rfl)
    refine ⟨C.max_eq, C'.pool_idx, C'.outside, C.max_ok, C'.alive, C.stopped_ok, hpt, ?_, ⟨?_, ?_⟩⟩
    · show (s.ws.set w _).length + 0 ≤ s.submitted.length; rw [List.length_set]; exact hsp
    · exact fun h => nomatch A.1.symm.trans h
    · intro _ _ _; exact someActive_set hw rfl
  | notifyMiss todo ho hn =>
    rw [ho] at A hpt hsp
    refine ⟨C.max_eq, C.pool_idx, C.outside, C.max_ok, C.alive, C.stopped_ok, hpt, hsp, ⟨?_, ?_⟩⟩
    · exact fun h => nomatch A.1.symm.trans h
    · intro h0 _ _
      -- some pool worker exists; it is neither exited (the pool is running) nor parked un-notified (the miss)
      cases hp : s.pool with
      | nil => exact absurd hp (A.2.2 h0)
      | cons w rest =>
        have hin : w ∈ s.pool := hp ▸ List.mem_cons_self
        obtain ⟨wk, hw⟩ : ∃ wk, s.ws[w]? = some wk := ⟨_, List.getElem?_eq_getElem (C.pool_idx w hin)⟩
        rcases wk.exited_or_asleep_or_active with e | e | ha
        · exact absurd (e ▸ hw) (C.alive A.1 w hin)
        · exact absurd (e ▸ hw) (hn w)
        · exact ⟨w, wk, hw, ha⟩
  | clear todo ho =>
    rw [ho] at A hpt hsp
    refine ⟨C.max_eq, C.pool_idx, C.outside, C.max_ok, C.alive, ?_, hpt, hsp, ⟨A.1, fun _ _ h => absurd rfl h⟩⟩
    intro h; have := C.stopped_ok h; exact ⟨this.1, this.2.1, rfl⟩
  | stop todo ho =>
    rw [ho] at A hpt hsp
    refine ⟨C.max_eq, C.pool_idx, C.outside, C.max_ok, nofun, ?_, hpt, hsp, rfl⟩
    intro h; have := C.stopped_ok h; exact ⟨rfl, this.2⟩
  | stopNotify todo ho =>
    rw [ho] at A hpt hsp
    have hr : s.running = false := A
    refine ⟨C.max_eq, ?_, ?_, C.max_ok, ?_, C.stopped_ok, hpt, ?_, ⟨hr, ?_, fun w hw => hw, fun w hw => Or.inl hw⟩⟩
    · show ∀ w ∈ s.pool, w < (s.ws.map wakeAll).length; rw [List.length_map]; exact C.pool_idx
    · intro w wk hw hnp
      obtain ⟨q, hq, e⟩ := getElem?_map_wakeAll hw
      rw [e, C.outside w q hq hnp]; rfl
    · exact fun h => nomatch hr.symm.trans h
    · show (s.ws.map wakeAll).length + 0 ≤ s.submitted.length; rw [List.length_map]; exact hsp
    · intro w hw
      obtain ⟨q, _, e⟩ := getElem?_map_wakeAll hw
      cases q <;> cases e
  | joinOne w rem todo ho hw =>
    rw [ho] at A hpt hsp
    obtain ⟨h1, h2, h3, h4⟩ := A
    refine ⟨C.max_eq, C.pool_idx, C.outside, C.max_ok, C.alive, C.stopped_ok, hpt, hsp,
      ⟨h1, h2, fun w' hw' => h3 w' (List.mem_cons_of_mem _ hw'), ?_⟩⟩
    intro w' hw'
    rcases h4 w' hw' with h | h
    · rcases List.mem_cons.1 h with e | h
      · rw [e]; exact Or.inr hw
      · exact Or.inl h
    · exact Or.inr h
  | joinDone todo ho =>
    rw [ho] at A hpt hsp
    obtain ⟨h1, h2, h3, h4⟩ := A
    refine ⟨C.max_eq, fun w hw => (nomatch hw), ?_, Nat.zero_le _, fun _ w hw => (nomatch hw), ?_, hpt, hsp, ⟨h1, h2, rfl⟩⟩
    · intro w wk hw _
      by_cases hp : w ∈ s.pool
      · rcases h4 w hp with h | h
        · cases h
        · rw [hw] at h; cases h; rfl
      · exact C.outside w wk hw hp
    · intro h; have := C.stopped_ok h; exact ⟨h1, rfl, this.2.2⟩
  | stopClear todo ho =>
    rw [ho] at A hpt hsp
    exact ⟨C.max_eq, C.pool_idx, C.outside, C.max_ok, C.alive, fun _ => ⟨A.1, A.2.2, rfl⟩, hpt, hsp,
      ⟨fun _ => rfl, fun _ _ h => absurd rfl h⟩⟩
  | workerExit w wk hw ha hr =>
    exact C.cell hw (awake_ne_exited ha) (Or.inl rfl) nofun (fun _ => hr) (Or.inr (Or.inr hr))
  | workerTake w wk tk q hw ha hr hq =>
    exact C.cell hw (awake_ne_exited ha) (Or.inr hr) nofun nofun (Or.inl rfl)
  | workerPark w wk hw ha hr hq =>
    exact C.cell hw (awake_ne_exited ha) (Or.inl rfl) (fun _ => hr) nofun (Or.inr (Or.inl hq))
  | workerRunEnd w tk hw =>
    exact C.cell hw nofun (Or.inl rfl) nofun nofun (Or.inl rfl)
  | workerDelete w tk hw =>
    exact C.cell hw nofun (Or.inl rfl) nofun nofun (Or.inl rfl)

theorem reach_ctl (h : Reach max prog s) : Ctl max prog s := by
  induction h with
  | init => exact ctl_init max prog
  | step _ hs ih =>
    cases hs with
    | code hc => exact ctl_step ih hc
    | spurious w hw =>
      exact ih.cell hw nofun (Or.inl rfl) nofun nofun (Or.inl rfl)

def inStop (s : State) : Prop :=
  (∃ todo, s.owner = .stopNotify todo) ∨ (∃ rem todo, s.owner = .join rem todo) ∨ (∃ todo, s.owner = .clearQ todo)

theorem Ctl.inStop_not_running (C : Ctl max prog s) (hs : inStop s) : s.running = false := by
  rcases hs with ⟨_, ho⟩ | ⟨_, _, ho⟩ | ⟨_, ho⟩
  · exact C.at ho
  · exact (C.at ho).1
  · exact (C.at ho).1

theorem reach_max (h : Reach max prog s) : s.max = max := (reach_ctl h).max_eq

/-- **C08 (bound)**: the pool never holds more than the configured maximum of worker threads. -/
theorem pool_le_max (max prog s) (h : Reach max prog s) : s.pool.length ≤ s.max := (reach_ctl h).max_ok

/-! ### the flat invariants read off `Ctl` -/

structure StopInv (s : State) : Prop where
  flag_stop : ∀ todo, s.owner = .stopNotify todo → s.running = false
  phase : ∀ todo, (∃ rem, s.owner = .join rem todo) ∨ s.owner = .clearQ todo →
      s.running = false ∧ ∀ w : Nat, s.ws[w]? ≠ some (Worker.parked false)
  starting : ∀ todo, s.owner = .spawn todo ∨ s.owner = .notifyOne todo → s.stopped = false ∧ s.running = true
  pool_idx : ∀ w ∈ s.pool, w < s.ws.length
  outside : ∀ (w : Nat) (wk : Worker), s.ws[w]? = some wk → w ∉ s.pool → wk = .exited
  join_rem : ∀ rem todo, s.owner = .join rem todo →
      (∀ w ∈ rem, w ∈ s.pool) ∧ (∀ w ∈ s.pool, w ∈ rem ∨ s.ws[w]? = some .exited)
  clearq_pool : ∀ todo, s.owner = .clearQ todo → s.pool = []
  stopped_ok : s.stopped = true → s.running = false ∧ s.pool = []
  max_ok : s.pool.length ≤ s.max

structure Quies (prog : List OwnerOp) (s : State) : Prop where
  idle_q : ∀ todo, s.owner = .idle todo → s.running = false → s.queue = []
  prog_tasks : s.submitted ++ tasksOf s.owner.todo = tasksOf prog
  spawned : s.ws.length + spawnPending s.owner ≤ s.submitted.length

theorem Ctl.stopInv (C : Ctl max prog s) : StopInv s where
  flag_stop _ ho := C.at ho
  phase todo ho := by
    rcases ho with ⟨rem, ho⟩ | ho
    · exact ⟨(C.at ho).1, (C.at ho).2.1⟩
    · exact ⟨(C.at ho).1, (C.at ho).2.1⟩
  starting todo ho := by
    rcases ho with ho | ho
    · exact ⟨(C.at ho).2, (C.at ho).1⟩
    · exact ⟨(C.at ho).2.1, (C.at ho).1⟩
  pool_idx := C.pool_idx
  outside := C.outside
  join_rem _ _ ho := (C.at ho).2.2
  clearq_pool _ ho := (C.at ho).2.2
  stopped_ok h := ⟨(C.stopped_ok h).1, (C.stopped_ok h).2.1⟩
  max_ok := C.max_ok

theorem Ctl.quies (C : Ctl max prog s) : Quies prog s where
  idle_q _ ho hr := (C.stopped_ok ((C.at ho).1 hr)).2.2
  prog_tasks := C.prog_tasks
  spawned := C.spawned

theorem reach_stop (h : Reach max prog s) : StopInv s := (reach_ctl h).stopInv

theorem reach_quies (h : Reach max prog s) : Quies prog s := (reach_ctl h).quies

end TPool
