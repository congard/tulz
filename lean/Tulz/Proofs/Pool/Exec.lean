import Tulz.Proofs.Pool.Ctl
/-
  The executable step function `xstep?` run by the driver takes exactly the steps of the relation `Step`
  the theorems quantify over.
-/
namespace TPool

theorem noneAsleep_iff {ws : List Worker} : noneAsleep ws = true ↔ NoSleeper ws := by
  unfold noneAsleep NoSleeper
  rw [List.all_eq_true]
  constructor
  · intro h w hw
    have := h _ (List.mem_of_getElem? hw)
    simp at this
  · intro h x hx
    obtain ⟨i, hi, rfl⟩ := List.getElem_of_mem hx
    have := h i
    rw [List.getElem?_eq_getElem hi] at this
    simp only [bne_iff_ne, ne_eq]
    intro e; exact this (by rw [e])

theorem awakeStep_step {s : State} {w : Nat} {wk : Worker} (hw : s.ws[w]? = some wk) (ha : wk.awake = true) :
    Step s (awakeStep s w) := by
  unfold awakeStep
  by_cases hr : s.running = false
  · rw [if_pos hr]; exact Step.workerExit s w wk hw ha hr
  · rw [if_neg hr]
    have hr' : s.running = true := by
      cases h : s.running with
      | true => rfl
      | false => exact absurd h hr
    split
    · rename_i hq; exact Step.workerPark s w wk hw ha hr' hq
    · rename_i t q hq; exact Step.workerTake s w wk t q hw ha hr' hq

theorem ownerStep?_sound {s t : State} {wk : Option Nat} (h : ownerStep? s wk = some t) : Step s t := by
  unfold ownerStep? at h
  split at h
  · rename_i tk todo ho; cases h; exact Step.start s tk todo ho
  · rename_i todo ho; cases h; exact Step.clear s todo ho
  · rename_i todo ho; cases h; exact Step.stop s todo ho
  · rename_i todo ho
    split at h
    · rename_i hlt; cases h; exact Step.spawnYes s todo ho hlt
    · rename_i hlt; cases h; exact Step.spawnNo s todo ho hlt
  · rename_i todo w ho
    split at h
    · rename_i hw; cases h; exact Step.notifyHit s todo w ho hw
    · cases h
  · rename_i todo ho
    split at h
    · rename_i hn; cases h; exact Step.notifyMiss s todo ho (noneAsleep_iff.1 hn)
    · cases h
  · rename_i todo ho; cases h; exact Step.stopNotify s todo ho
  · rename_i w rem todo ho
    split at h
    · rename_i hw; cases h; exact Step.joinOne s w rem todo ho hw
    · cases h
  · rename_i todo ho; cases h; exact Step.joinDone s todo ho
  · rename_i todo ho; cases h; exact Step.stopClear s todo ho
  · cases h

theorem workerStep?_sound {s t : State} {w : Nat} (h : workerStep? s w = some t) : Step s t := by
  unfold workerStep? at h
  split at h
  · rename_i hw; cases h; exact awakeStep_step hw rfl
  · rename_i hw; cases h; exact awakeStep_step hw rfl
  · rename_i tk hw; cases h; exact Step.workerRunEnd s w tk hw
  · rename_i tk hw; cases h; exact Step.workerDelete s w tk hw
  · cases h

/-- the executable step function only takes steps of the relation the theorems quantify over -/
theorem xstep?_sound {s t : State} {l : Label} (h : xstep? s l = some t) : Step s t := by
  cases l with
  | owner wk => exact ownerStep?_sound h
  | worker w => exact workerStep?_sound h

theorem workerStep?_awake {s : State} {w : Nat} {wk : Worker} (hw : s.ws[w]? = some wk) (ha : wk.awake = true) :
    workerStep? s w = some (awakeStep s w) := by
  unfold workerStep?
  cases wk with
  | check => rw [hw]
  | parked n =>
    cases n with
    | true => rw [hw]
    | false => simp [Worker.awake] at ha
  | _ => simp [Worker.awake] at ha

theorem awake_active {wk : Worker} (h : wk.awake = true) : wk.active = true := by
  cases wk with
  | check => rfl
  | parked n => cases n <;> first | rfl | cases h
  | _ => cases h

/-- who moves in a step, and that the step is the step function's answer for that thread: the owner, or a worker
    that is active -/
theorem Step.mover {s t : State} (h : Step s t) :
    (∃ woken, ownerStep? s woken = some t) ∨
    ∃ (w : Nat) (wk : Worker), s.ws[w]? = some wk ∧ wk.active = true ∧ workerStep? s w = some t := by
  cases h with
  | start tk todo ho => exact Or.inl ⟨none, by simp [ownerStep?, ho]⟩
  | spawnYes todo ho hlt => exact Or.inl ⟨none, by simp [ownerStep?, ho, hlt]⟩
  | spawnNo todo ho hlt => exact Or.inl ⟨none, by simp [ownerStep?, ho, hlt]⟩
  | notifyHit todo w ho hw => exact Or.inl ⟨some w, by simp [ownerStep?, ho, hw]⟩
  | notifyMiss todo ho hn => exact Or.inl ⟨none, by simp [ownerStep?, ho, noneAsleep_iff.2 hn]⟩
  | clear todo ho => exact Or.inl ⟨none, by simp [ownerStep?, ho]⟩
  | stop todo ho => exact Or.inl ⟨none, by simp [ownerStep?, ho]⟩
  | stopNotify todo ho => exact Or.inl ⟨none, by simp [ownerStep?, ho]⟩
  | joinOne w rem todo ho hw => exact Or.inl ⟨none, by simp [ownerStep?, ho, hw]⟩
  | joinDone todo ho => exact Or.inl ⟨none, by simp [ownerStep?, ho]⟩
  | stopClear todo ho => exact Or.inl ⟨none, by simp [ownerStep?, ho]⟩
  | workerExit w wk hw ha hr =>
    exact Or.inr ⟨w, wk, hw, awake_active ha, by rw [workerStep?_awake hw ha]; simp [awakeStep, hr]⟩
  | workerTake w wk tk q hw ha hr hq =>
    exact Or.inr ⟨w, wk, hw, awake_active ha, by rw [workerStep?_awake hw ha]; simp [awakeStep, hr, hq]⟩
  | workerPark w wk hw ha hr hq =>
    exact Or.inr ⟨w, wk, hw, awake_active ha, by rw [workerStep?_awake hw ha]; simp [awakeStep, hr, hq]⟩
  | workerRunEnd w tk hw => exact Or.inr ⟨w, _, hw, rfl, by simp [workerStep?, hw]⟩
  | workerDelete w tk hw => exact Or.inr ⟨w, _, hw, rfl, by simp [workerStep?, hw]⟩

/-- … and every step of the relation is the step function's answer for the thread that moves -/
theorem xstep?_complete {s t : State} (h : Step s t) : ∃ l, xstep? s l = some t := by
  rcases h.mover with ⟨woken, h⟩ | ⟨w, _, _, _, h⟩
  · exact ⟨.owner woken, h⟩
  · exact ⟨.worker w, h⟩

/-- the step function is a function: one label, one successor (the scheduler's label determines the model step) -/
theorem xstep?_deterministic {s t u : State} {l : Label} (h1 : xstep? s l = some t) (h2 : xstep? s l = some u) : t = u := by
  rw [h1] at h2; cases h2; rfl

theorem xrun?_reach {max prog} {s t : State} {ls : List Label} (h : Reach max prog s) (hr : xrun? s ls = some t) :
    Reach max prog t := by
  induction ls generalizing s with
  | nil => simp [xrun?] at hr; subst hr; exact h
  | cons l ls ih =>
    unfold xrun? at hr
    split at hr
    · rename_i u hu; exact ih (h.code (xstep?_sound hu)) hr
    · cases hr

end TPool
