import Tulz.Proofs.Pool.Exec
import Tulz.Proofs.Pool.Hist
/-
  Which steps are enabled.  Some step is enabled unless the owner's program is finished and no worker is active;
  in such a (quiescent) state the queue is empty, every submitted task has been destroyed exactly once, and a task that
  was not dropped by a clear()/stop() was run exactly once.
-/
namespace TPool

variable {max : Nat} {prog : List OwnerOp} {s : State}

/-- no step of the code is enabled (spurious wake-ups aside) -/
def Stuck (s : State) : Prop := ∀ t, ¬ Step s t

theorem worker_enabled {w : Nat} {wk : Worker} (hw : s.ws[w]? = some wk) (ha : wk.active = true) : ∃ t, Step s t := by
  cases wk with
  | check => exact ⟨_, awakeStep_step hw rfl⟩
  | parked n =>
    cases n with
    | true => exact ⟨_, awakeStep_step hw rfl⟩
    | false => cases ha
  | running t => exact ⟨_, Step.workerRunEnd s w t hw⟩
  | ran t => exact ⟨_, Step.workerDelete s w t hw⟩
  | exited => cases ha

/-- the owner's next step is enabled at every program counter but `join`, which waits for the exit of a pool thread;
    that thread is not asleep (`NoSleeper`), so it can move instead -/
theorem owner_enabled (C : Ctl max prog s) (hne : s.owner ≠ .idle []) : ∃ t, Step s t := by
  cases ho : s.owner with
  | idle todo =>
    cases todo with
    | nil => exact absurd ho hne
    | cons op todo =>
      cases op with
      | start t => exact ⟨_, Step.start s t todo ho⟩
      | clear => exact ⟨_, Step.clear s todo ho⟩
      | stop => exact ⟨_, Step.stop s todo ho⟩
  | spawn todo =>
    by_cases hlt : s.pool.length < s.max
    · exact ⟨_, Step.spawnYes s todo ho hlt⟩
    · exact ⟨_, Step.spawnNo s todo ho hlt⟩
  | notifyOne todo =>
    by_cases hex : ∃ w : Nat, s.ws[w]? = some (Worker.parked false)
    · obtain ⟨w, hw⟩ := hex; exact ⟨_, Step.notifyHit s todo w ho hw⟩
    · exact ⟨_, Step.notifyMiss s todo ho (fun w hw => hex ⟨w, hw⟩)⟩
  | stopNotify todo => exact ⟨_, Step.stopNotify s todo ho⟩
  | join rem todo =>
    cases rem with
    | nil => exact ⟨_, Step.joinDone s todo ho⟩
    | cons w rem =>
      obtain ⟨_, hns, hrem, _⟩ := C.at ho
      obtain ⟨wk, hw⟩ : ∃ wk, s.ws[w]? = some wk :=
        ⟨_, List.getElem?_eq_getElem (C.pool_idx w (hrem w List.mem_cons_self))⟩
      rcases wk.exited_or_asleep_or_active with e | e | ha
      · exact ⟨_, Step.joinOne s w rem todo ho (e ▸ hw)⟩
      · exact absurd (e ▸ hw) (hns w)
      · exact worker_enabled hw ha
  | clearQ todo => exact ⟨_, Step.stopClear s todo ho⟩

/-! ### decidable test for stuck states -/

def Worker.blocked : Worker → Bool
  | .parked false => true
  | .exited => true
  | _ => false

def stuckB (s : State) : Bool := (s.owner == .idle []) && s.ws.all Worker.blocked

theorem blocked_eq_not_active (wk : Worker) : wk.blocked = !wk.active := by
  cases wk with
  | parked n => cases n <;> rfl
  | _ => rfl

/-- the converse of `owner_enabled` and `worker_enabled`, for any state -/
theorem stuck_of_stuckB {s : State} (h : stuckB s = true) : Stuck s := by
  unfold stuckB at h
  rw [Bool.and_eq_true, beq_iff_eq, List.all_eq_true] at h
  obtain ⟨ho, hb⟩ := h
  intro t hs
  rcases hs.mover with ⟨woken, hw⟩ | ⟨w, wk, hw, ha, _⟩
  · unfold ownerStep? at hw
    rw [ho] at hw
    cases hw
  · have := hb wk (List.mem_of_getElem? hw)
    rw [blocked_eq_not_active, ha] at this
    cases this

/-- **C07 (no lost task)**: while the pool is running, a queued task always has somebody who will get to it:
    a worker that is awake, busy or already notified, or the owner is still inside `start()` about to spawn/notify. -/
theorem queue_progress (C : Ctl max prog s) (hmax : 1 ≤ max) (hq : s.queue ≠ []) (hr : s.running = true) :
    ∃ t, Step s t := by
  cases ho : s.owner with
  | idle todo =>
    obtain ⟨w, wk, hw, ha⟩ := (C.at ho).2 (C.max_eq ▸ hmax) hr hq
    exact worker_enabled hw ha
  | _ => exact owner_enabled C (by rw [ho]; nofun)

theorem inactive_task_none {wk : Worker} (h : wk.active ≠ true) : wk.task? = none := by
  cases wk with
  | running t => exact absurd rfl h
  | ran t => exact absurd rfl h
  | _ => rfl

structure Quiescent (prog : List OwnerOp) (s : State) : Prop where
  owner_done : s.owner = .idle []
  all_submitted : s.submitted = tasksOf prog
  workers_idle : ∀ (w : Nat) (wk : Worker), s.ws[w]? = some wk → wk = .parked false ∨ wk = .exited
  queue_empty : s.queue = []
  destroyed_all : s.destroyed.Perm s.submitted
  destroyed_once : ∀ t ∈ tasksOf prog, s.destroyed.count t = 1
  fate : ∀ t ∈ tasksOf prog,
      (t ∈ s.dropped ∧ s.runs.count t = 0) ∨ (t ∉ s.dropped ∧ s.runs.count t = 1 ∧ s.finished.count t = 1)

theorem quiescent_of_stuck {max prog s} (hp : (tasksOf prog).Nodup) (hmax : 1 ≤ max) (h : Reach max prog s)
    (hq : Stuck s) : Quiescent prog s := by
  have C := reach_ctl h
  have H := reach_hist h
  have ho : s.owner = .idle [] :=
    Classical.byContradiction fun hne => (owner_enabled C hne).elim hq
  have hsub : s.submitted = tasksOf prog := by
    have := C.prog_tasks; rw [ho] at this; exact (List.append_nil _).symm.trans this
  have hidle : ∀ (w : Nat) (wk : Worker), s.ws[w]? = some wk → wk.active ≠ true :=
    fun w wk hw ha => (worker_enabled hw ha).elim hq
  have hqueue : s.queue = [] :=
    Classical.byContradiction fun hne => by
      cases hr : s.running with
      | false => exact hne (C.stopped_ok ((C.at ho).1 hr)).2.2
      | true => exact (queue_progress C hmax hne hr).elim hq
  have hhands : hands s.ws = [] := hands_eq_nil fun w wk hw => inactive_task_none (hidle w wk hw)
  obtain ⟨hperm, hfin, hfate⟩ := H.at_rest hqueue hhands
  have hn := C.submitted_nodup hp
  have hnd := hfate.nodup_iff.2 hn
  have hone : ∀ t ∈ tasksOf prog, s.submitted.count t = 1 := fun t ht => by
    rw [List.Nodup.count hn, if_pos (hsub ▸ ht)]
  refine ⟨ho, hsub, ?_, hqueue, hperm, fun t ht => (hperm.count_eq t).trans (hone t ht), ?_⟩
  · intro w wk hw
    rcases wk.exited_or_asleep_or_active with e | e | ha
    · exact Or.inr e
    · exact Or.inl e
    · exact absurd ha (hidle w wk hw)
  · intro t ht
    by_cases hd : t ∈ s.dropped
    · exact Or.inl ⟨hd, List.count_eq_zero.2 fun hr => (List.nodup_append.1 hnd).2.2 t hr t hd rfl⟩
    · have hr : t ∈ s.runs := (List.mem_append.1 (hfate.mem_iff.2 (hsub ▸ ht))).resolve_right hd
      have h1 : s.runs.count t = 1 := by rw [List.Nodup.count (List.nodup_append.1 hnd).1, if_pos hr]
      exact Or.inr ⟨hd, h1, (hfin.count_eq t).trans h1⟩

end TPool
