import Tulz.Model.DirVisitor
/- DirectoryVisitor: the directory reached by destroying all live visitors (`unwind`) never changes along a run, because a
   destructor undoes its constructor; and a run never looks below the visitors it created itself. -/
namespace Tulz.Dv

/-- the OS specification used by the theorem: `valid` = absolute path of an existing directory as `getcwd`
    reports it.  Such a path is non-empty, `chdir` to it from anywhere succeeds and makes it the working
    directory, and whatever `chdir` does, the working directory stays valid. -/
structure OsSpec (os : Os) (valid : String → Prop) : Prop where
  nonempty : ∀ c, valid c → c ≠ ""
  stays : ∀ c x, valid c → valid (os.chdir c x)
  back : ∀ c c', valid c → valid c' → os.chdir c' c = c

/-- working directory after destroying all visitors of the stack, innermost first -/
def unwind (os : Os) : String → List Visitor → String
  | cwd, [] => cwd
  | cwd, v :: r => unwind os (dtor os cwd v) r

def StackOk (valid : String → Prop) (stack : List Visitor) : Prop :=
  ∀ v ∈ stack, v.m_oldDir = "" ∨ valid v.m_oldDir

theorem step_inv (os : Os) (valid : String → Prop) (hos : OsSpec os valid)
    (s s' : St) (e : Ev) (hv : valid s.1) (hst : StackOk valid s.2) (h : step os s e = some s') :
    valid s'.1 ∧ StackOk valid s'.2 ∧ unwind os s'.1 s'.2 = unwind os s.1 s.2 := by
  obtain ⟨cwd, stack⟩ := s
  cases e with
  | ctor dir =>
    simp only [step, ctor, visit, getWorkingDirectory] at h
    by_cases hd : dir = ""
    · simp only [hd, ne_eq, not_true_eq_false, if_false, Option.some.injEq] at h
      subst h
      refine ⟨hv, ?_, ?_⟩
      · intro v hvm
        rcases List.mem_cons.mp hvm with h | h
        · subst h; left; rfl
        · exact hst v h
      · simp [unwind, dtor, restore]
    · simp only [ne_eq, hd, not_false_eq_true, if_true, Option.some.injEq] at h
      subst h
      refine ⟨hos.stays _ _ hv, ?_, ?_⟩
      · intro v hvm
        rcases List.mem_cons.mp hvm with h | h
        · subst h; right; exact hv
        · exact hst v h
      · have hne : cwd ≠ "" := hos.nonempty _ hv
        simp only [unwind, dtor, restore, ne_eq, hne, not_false_eq_true, if_true]
        rw [hos.back cwd _ hv (hos.stays _ _ hv)]
  | dtor =>
    cases stack with
    | nil => simp [step] at h
    | cons v r =>
      simp only [step, Option.some.injEq] at h
      subst h
      refine ⟨?_, ?_, ?_⟩
      · simp only [dtor, restore]
        by_cases ho : v.m_oldDir = ""
        · simpa [ho] using hv
        · simp only [ne_eq, ho, not_false_eq_true, if_true]; exact hos.stays _ _ hv
      · intro w hw; exact hst w (List.mem_cons_of_mem _ hw)
      · simp [unwind]

theorem run_inv (os : Os) (valid : String → Prop) (hos : OsSpec os valid) (evs : List Ev) :
    ∀ (s s' : St), valid s.1 → StackOk valid s.2 → run os s evs = some s' →
      valid s'.1 ∧ StackOk valid s'.2 ∧ unwind os s'.1 s'.2 = unwind os s.1 s.2 := by
  induction evs with
  | nil => intro s s' hv hst h; simp only [run, Option.some.injEq] at h; subst h; exact ⟨hv, hst, rfl⟩
  | cons e r ih =>
    intro s s' hv hst h
    simp only [run] at h
    cases hs : step os s e with
    | none => rw [hs] at h; cases h
    | some s1 =>
      rw [hs] at h
      obtain ⟨a, b, c⟩ := step_inv os valid hos s s1 e hv hst hs
      obtain ⟨a', b', c'⟩ := ih s1 s' a b h
      exact ⟨a', b', c'.trans c⟩

/-- a run that succeeds never looks below its own visitors: it is independent of what lies beneath -/
theorem run_frame (os : Os) (outer : List Visitor) (evs : List Ev) :
    ∀ (c c' : String) (st st' : List Visitor),
      run os (c, st) evs = some (c', st') → run os (c, st ++ outer) evs = some (c', st' ++ outer) := by
  induction evs with
  | nil => intro c c' st st' h; cases h; rfl
  | cons e r ih =>
    intro c c' st st' h
    cases e with
    | ctor dir => exact ih _ _ _ _ h
    | dtor =>
      cases st with
      | nil => cases h
      | cons v rest => exact ih _ _ _ _ h

end Tulz.Dv
