import Tulz.Proofs.RingBufferOps
/-
  resize (all three layout branches), destructor loop, copy construction / assignment, comparison.
-/
namespace Tulz
namespace RB
variable {α : Type}

/-- `silentCopy(dst, n)`, written as two `memcpy`s, is the first `n` slots in logical order -/
theorem silentCopy_take {b : RB α} (hd : b.data.length = b.cap) (hp : b.pos < b.cap) {n : Nat} (hn : n ≤ b.cap) :
    b.silentCopy n = (rot b.pos b.data).take n := by
  have hl : (b.data.drop b.pos).length = b.cap - b.pos := by rw [List.length_drop, hd]
  show (b.data.drop b.pos).take (min n (b.cap - b.pos))
      ++ (b.data.drop ((b.pos + min n (b.cap - b.pos)) % b.cap)).take (n - min n (b.cap - b.pos))
    = (b.data.drop b.pos ++ b.data.take b.pos).take n
  rw [List.take_append, hl]
  have hpc : b.pos + (b.cap - b.pos) = b.cap := Nat.add_sub_cancel' (Nat.le_of_lt hp)
  by_cases h : n ≤ b.cap - b.pos
  · rw [Nat.min_eq_left h, Nat.sub_self, Nat.sub_eq_zero_of_le h, List.take_zero, List.take_zero]
  · -- the first `memcpy` runs to the end of the block, the second starts at index 0
    have h' : b.cap - b.pos ≤ n := Nat.le_of_lt (Nat.lt_of_not_le h)
    rw [Nat.min_eq_right h', hpc, Nat.mod_self, List.drop_zero, List.take_take,
      Nat.min_eq_left (Nat.sub_le_iff_le_add.mpr (by rw [hpc]; exact hn)), List.take_of_length_le (Nat.le_of_eq hl),
      List.take_of_length_le (l := b.data.drop b.pos) (by rw [hl]; exact h')]

theorem silentCopy_get {b : RB α} {xs} (h : Rep b xs) (hc : 0 < b.cap) (n : Nat) (hn : n ≤ b.cap) (i : Nat) (hi : i < n) :
    (b.silentCopy n)[i]? = b.data[b.phys i]? := by
  rw [silentCopy_take h.data_len (h.pos_lt hc) hn, List.getElem?_take_of_lt hi, h.rot_get (Nat.lt_of_lt_of_le hi hn)]

theorem silentCopy_length {b : RB α} {xs} (h : Rep b xs) (hc : 0 < b.cap) (n : Nat) (hn : n ≤ b.cap) :
    (b.silentCopy n).length = n := by
  rw [silentCopy_take h.data_len (h.pos_lt hc) hn, List.length_take, rot_length, h.data_len, Nat.min_eq_left hn]

theorem silentCopy_eq {b : RB α} {xs} (h : Rep b xs) (hc : 0 < b.cap) (n : Nat) (hn : n ≤ b.size) :
    b.silentCopy n = (xs.take n).map .live := by
  obtain ⟨junk, hv, -, -⟩ := h.rot_eq
  rw [silentCopy_take h.data_len (h.pos_lt hc) (Nat.le_trans hn h.size_le), hv,
    List.take_append_of_le_length (by rw [List.length_map, h.len_eq]; exact hn), List.map_take]

/-- `modCap(pos + size - 1)` for a non-empty, non-wrapped layout -/
theorem not_wrapped {b : RB α} {xs} (h : Rep b xs) (hc : 0 < b.cap) (hs : 0 < b.size) (hle : b.pos ≤ b.lastIndex) :
    b.pos + b.size - 1 < b.cap ∧ b.lastIndex = b.pos + b.size - 1 := by
  have hp := h.pos_lt hc
  have hsz := h.size_le
  have e : b.lastIndex = (b.pos + b.size - 1) % b.cap := by
    rw [RB.lastIndex, Nat.sub_add_comm (Nat.le_trans hs (Nat.le_add_left _ _)), Nat.add_mod_right]
  by_cases hw : b.pos + b.size - 1 < b.cap
  · exact ⟨hw, e.trans (Nat.mod_eq_of_lt hw)⟩
  · -- wrapped: the last element lies before `pos`
    rw [e, Nat.mod_eq_sub_mod (Nat.le_of_not_lt hw)] at hle
    have := Nat.le_trans hle (Nat.mod_le _ _)
    omega

/-- the destructor loop over a run of live logical elements succeeds and leaves them raw, the rest untouched -/
theorem destroyRange_ok {b : RB α} (hp : b.pos ≤ b.cap) (ys : List α) : ∀ (d : List (Slot α)) (pre post : List (Slot α)),
    d.length = b.cap → rot b.pos d = pre ++ (ys.map .live ++ post) →
    ∃ d', destroyRange b d pre.length ys.length = .ok d' ∧ d'.length = b.cap ∧
      rot b.pos d' = pre ++ (List.replicate ys.length .raw ++ post) := by
  induction ys with
  | nil => intro d pre post hd hv; exact ⟨d, rfl, hd, hv⟩
  | cons y ys ih =>
    intro d pre post hd hv
    have hy : (rot b.pos d)[pre.length]? = some (.live y) := by
      rw [hv, List.getElem?_append_right (Nat.le_refl _), Nat.sub_self]; rfl
    have hlt : pre.length < b.cap := by
      rw [← hd, ← rot_length b.pos d]; exact (List.getElem?_eq_some_iff.mp hy).1
    rw [Tulz.rot_get hd hp hlt] at hy
    change d[b.phys pre.length]? = _ at hy
    obtain ⟨d', hd', hlen', hv'⟩ := ih (d.set (b.phys pre.length) .raw) (pre ++ [.raw]) post
      (by rw [List.length_set, hd]) (by
        show rot b.pos (d.set ((b.pos + pre.length) % b.cap) _) = _
        rw [rot_set hd hp hlt, hv, List.set_append_right _ _ (Nat.le_refl _), Nat.sub_self, List.append_assoc]
        rfl)
    refine ⟨d', ?_, hlen', ?_⟩
    · rw [List.length_append, List.length_singleton] at hd'
      simp only [destroyRange, List.length_cons, destroy_live hy]
      exact hd'
    · rw [hv', List.append_assoc]; rfl

/-- contents that do not wrap around the end of the block lie contiguously in it, between slots without a value -/
theorem Rep.linear {b : RB α} {xs} (h : Rep b xs) (hnw : b.pos + b.size ≤ b.cap) :
    ∃ pre post, b.data = pre ++ (xs.map .live ++ post) ∧ pre.length = b.pos ∧
      (∀ s ∈ pre, s.val? = none) ∧ (∀ s ∈ post, s.val? = none) := by
  obtain ⟨junk, hv, -, hj⟩ := h.rot_eq
  have hl : (b.data.drop b.pos).length = b.cap - b.pos := by rw [List.length_drop, h.data_len]
  have hx : (xs.map Slot.live).length ≤ b.cap - b.pos := by
    rw [List.length_map, h.len_eq]; exact Nat.le_sub_of_add_le' hnw
  -- split `rot b.pos b.data = data.drop pos ++ data.take pos` at the end of the block
  have hdrop := congrArg (List.take (b.cap - b.pos)) hv
  have htake := congrArg (List.drop (b.cap - b.pos)) hv
  rw [rot, List.take_left' hl, List.take_append, List.take_of_length_le hx] at hdrop
  rw [rot, List.drop_left' hl, List.drop_append, List.drop_eq_nil_of_le hx, List.nil_append] at htake
  refine ⟨b.data.take b.pos, junk.take (b.cap - b.pos - (xs.map Slot.live).length), ?_,
    by rw [List.length_take, h.data_len]; exact Nat.min_eq_left h.pos_le, ?_, ?_⟩
  · rw [← hdrop, List.take_append_drop]
  · intro s hs; rw [htake] at hs; exact hj s (List.mem_of_mem_drop hs)
  · intro s hs; exact hj s (List.mem_of_mem_take hs)

/-- **resize** keeps the first `min size newCapacity` elements, in order, in every layout -/
theorem resize_ok {b : RB α} {xs} (h : Rep b xs) (hc : 0 < b.cap) (nc : Nat) :
    ∃ b' k, b.resize nc = .ok (b', k) ∧ Rep b' (xs.take nc) ∧ b'.cap = nc := by
  have hxl := h.len_eq
  have hsz := h.size_le
  by_cases he : nc = b.cap
  · refine ⟨b, 0, by rw [RB.resize, if_pos he]; rfl, ?_, he.symm⟩
    rw [List.take_of_length_le (by rw [hxl, he]; exact hsz)]; exact h
  by_cases hcase : b.pos ≤ b.lastIndex ∧ b.lastIndex < nc
  · -- realloc in place: the contents are not wrapped and end before `nc`
    have hposnc : b.pos < nc := Nat.lt_of_le_of_lt hcase.1 hcase.2
    have hnw : b.pos + b.size ≤ b.cap ∧ b.pos + b.size ≤ nc := by
      rcases Nat.eq_zero_or_pos b.size with hs | hs
      · rw [hs]; exact ⟨Nat.le_of_lt (h.pos_lt hc), Nat.le_of_lt hposnc⟩
      · obtain ⟨h1, h2⟩ := not_wrapped h hc hs hcase.1
        rw [h2] at hcase
        exact ⟨Nat.le_of_pred_lt h1, Nat.le_of_pred_lt hcase.2⟩
    obtain ⟨pre, post, hdata, hpre, hdp, hdq⟩ := h.linear hnw.1
    have hxm : (xs.map Slot.live).length = b.size := by rw [List.length_map, hxl]
    -- the block after `realloc`: the part of `post` that fits, then fresh raw slots
    have hnew : b.data.take nc ++ List.replicate (nc - b.cap) .raw
        = pre ++ (xs.map .live ++ (post.take (nc - b.pos - b.size) ++ List.replicate (nc - b.cap) .raw)) := by
      rw [hdata, List.take_append, List.take_of_length_le (l := pre) (hpre ▸ Nat.le_of_lt hposnc), List.take_append,
        List.take_of_length_le (l := xs.map Slot.live) (by rw [hxm, hpre]; exact Nat.le_sub_of_add_le' hnw.2),
        hxm, hpre, List.append_assoc, List.append_assoc]
    have hrep := rep_at (pre := pre) xs (cap := nc)
      (post := post.take (nc - b.pos - b.size) ++ List.replicate (nc - b.cap) .raw)
      (by rw [← hnew, List.length_append, List.length_take, List.length_replicate, h.data_len]; omega)
      (.inl (hpre ▸ hposnc)) hdp
      (fun s hs => (List.mem_append.mp hs).elim (fun hs => hdq s (List.mem_of_mem_take hs)) (raw_dead _ s))
    rw [hpre, hxl, ← hnew] at hrep
    refine ⟨_, 1, by rw [RB.resize, if_neg he, if_pos hcase]; rfl, ?_, rfl⟩
    rw [List.take_of_length_le (l := xs) (by rw [hxl]; exact Nat.le_trans (Nat.le_add_left _ _) hnw.2)]
    exact hrep
  by_cases hlt : nc < b.cap
  · -- shrink with linearisation: the cut-off tail is destroyed in the old block
    obtain ⟨junk, hv, -, -⟩ := h.rot_eq
    have hk : (xs.take nc).length ≤ xs.length := List.length_take_le' _ _
    have hkeep : xs.take (xs.take nc).length = xs.take nc := by rw [List.length_take]; exact List.take_eq_take_min.symm
    obtain ⟨d', hd', -, -⟩ := destroyRange_ok h.pos_le (xs.drop (xs.take nc).length) b.data
      ((xs.take (xs.take nc).length).map .live) junk h.data_len
      (by rw [hv, ← List.append_assoc, ← List.map_append, List.take_append_drop])
    rw [List.length_map, List.length_take (l := xs), Nat.min_eq_left hk, List.length_drop, hxl] at hd'
    refine ⟨_, 2, ?_, rep_fresh (xs.take nc) nc (List.length_take_le _ _), rfl⟩
    rw [RB.resize, if_neg he, if_neg hcase, if_pos hlt, ← hxl, Nat.min_comm, ← List.length_take]
    show (do let _ ← destroyRange b b.data _ _; pure _) = _
    rw [hxl, hd', silentCopy_eq h hc _ (hxl ▸ hk), hkeep]
    rfl
  · -- grow with linearisation
    have hfit : xs.length ≤ nc := Nat.le_trans (hxl ▸ hsz) (Nat.le_of_not_lt hlt)
    refine ⟨_, 3, by rw [RB.resize, if_neg he, if_neg hcase, if_neg hlt]; rfl, ?_, rfl⟩
    rw [silentCopy_eq h hc _ (Nat.le_refl _), ← hxl, List.take_length, List.take_of_length_le hfit]
    exact rep_fresh xs nc hfit

/-! ### destructor, copy, comparison -/

/-- `~RingBuffer()` succeeds and leaves no value behind in the block it frees -/
theorem destroyAll_ok {b : RB α} {xs} (h : Rep b xs) :
    ∃ d', b.destroyAll = .ok d' ∧ Mem.liveVals d' = [] := by
  obtain ⟨junk, hv, -, hj⟩ := h.rot_eq
  obtain ⟨d', hd', -, hv'⟩ := destroyRange_ok h.pos_le xs b.data [] junk h.data_len hv
  refine ⟨d', by rw [h.len_eq] at hd'; exact hd', liveVals_dead fun s hs => ?_⟩
  have hs' : s ∈ rot b.pos d' := (rot_perm _ _).mem_iff.mpr hs
  rw [hv', List.nil_append] at hs'
  exact (List.mem_append.mp hs').elim (raw_dead _ s) (hj s)

theorem copyFrom_ok {o : RB α} {xs} (h : Rep o xs) :
    ∃ c, RB.copyFrom o = .ok c ∧ Rep c xs ∧ c.cap = o.cap := by
  have hle : xs.length ≤ o.cap := by rw [h.len_eq]; exact h.size_le
  have hrep : Rep ⟨0, o.size, o.cap, xs.map .live ++ List.replicate (o.cap - xs.length) .raw⟩ xs := by
    rw [← h.len_eq]; exact rep_fresh xs o.cap hle
  refine ⟨_, ?_, hrep, rfl⟩
  unfold RB.copyFrom
  rw [toList_ok h]
  show (do let d ← constructAll (Mem.alloc o.cap) 0 xs; pure _) = _
  rw [constructAll_alloc xs o.cap hle]
  rfl

theorem copyAssign_ok {self o : RB α} {ys xs} (hs : Rep self ys) (h : Rep o xs) :
    ∃ c, RB.copyAssign self o = .ok c ∧ Rep c xs ∧ c.cap = o.cap := by
  obtain ⟨d', hd', -⟩ := destroyAll_ok hs
  obtain ⟨c, hc, hrep, hcap⟩ := copyFrom_ok h
  refine ⟨c, ?_, hrep, hcap⟩
  simp only [RB.copyAssign, hd']
  exact hc

theorem eq_ok [DecidableEq α] {a b : RB α} {xs ys} (ha : Rep a xs) (hb : Rep b ys) :
    RB.eq a b = .ok (decide (xs = ys)) := by
  simp only [RB.eq, toList_ok ha, toList_ok hb]
  rfl

end RB
end Tulz
