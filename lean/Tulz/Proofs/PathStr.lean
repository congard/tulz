import Tulz.Model.PathStr
/- String part of C18: `size_t` arithmetic and `erase` away from their edge cases, what the downward scan of
   `find_last_of` finds, and from these the name and the parent of a string of the shape `pre ++ sep :: n`
   (which is what `join` produces). -/
namespace Tulz.PathStr

def sepFree (n : Str) : Prop := ∀ c ∈ n, isSep c = false

/-! ### `size_t` arithmetic that does not wrap, `erase` inside the string -/

theorem usub_of_le {a b : Nat} (hb : b ≤ a) (ha : a ≤ npos) : usub a b = a - b := by
  have hW : a < W := Nat.lt_succ_of_le ha
  rw [usub, Nat.mod_eq_of_lt (Nat.lt_of_le_of_lt hb hW), Nat.sub_add_comm hb, Nat.add_mod_right,
    Nat.mod_eq_of_lt (Nat.lt_of_le_of_lt (Nat.sub_le a b) hW)]

theorem uadd_of_le {a b : Nat} (h : a + b ≤ npos) : uadd a b = a + b := Nat.mod_eq_of_lt (Nat.lt_succ_of_le h)

theorem erase_of_le {s : Str} {idx : Nat} (n : Nat) (h : idx ≤ s.length) :
    erase s idx n = .ok (s.take idx ++ s.drop (idx + min n (s.length - idx))) :=
  if_neg (Nat.not_lt.mpr h)

/-- `erase(idx, n)` with `n` reaching the end of the string keeps the first `idx` characters -/
theorem erase_to_end {s : Str} {idx n : Nat} (h : idx ≤ s.length) (hn : s.length - idx ≤ n) :
    erase s idx n = .ok (s.take idx) := by
  rw [erase_of_le n h, Nat.min_eq_right hn, Nat.add_sub_cancel' h, List.drop_length, List.append_nil]

theorem erase_zero (s : Str) (n : Nat) : erase s 0 n = .ok (s.drop (min n s.length)) := by
  rw [erase_of_le n (Nat.zero_le _), List.take_zero, List.nil_append, Nat.zero_add, Nat.sub_zero]

/-! ### `find_last_of` -/

theorem lastSepBelow_some {s : Str} {k i : Nat} (h : lastSepBelow s k = some i) :
    i < k ∧ ∃ hi : i < s.length, isSep s[i] = true := by
  induction k with
  | zero => cases h
  | succ k ih =>
    have below (h' : lastSepBelow s k = some i) : i < k + 1 ∧ ∃ hi : i < s.length, isSep s[i] = true :=
      ⟨Nat.lt_succ_of_lt (ih h').1, (ih h').2⟩
    unfold lastSepBelow at h
    split at h
    next c hc =>
      split at h
      next hsep =>
        cases h
        obtain ⟨hk, rfl⟩ := List.getElem?_eq_some_iff.mp hc
        exact ⟨Nat.lt_succ_self _, hk, hsep⟩
      next => exact below h
    next => exact below h

/-- the scan finds the separator placed in front of a separator-free suffix -/
theorem lastSepBelow_append (pre n : Str) (c : Char) (hc : isSep c = true) (hn : sepFree n) (j : Nat)
    (hj : j ≤ n.length) : lastSepBelow (pre ++ c :: n) (pre.length + 1 + j) = some pre.length := by
  induction j with
  | zero =>
    show lastSepBelow (pre ++ c :: n) (pre.length + 1) = some pre.length
    unfold lastSepBelow
    rw [List.getElem?_append_right (Nat.le_refl _), Nat.sub_self, List.getElem?_cons_zero]
    exact if_pos hc
  | succ j ih =>
    have hlt : j < n.length := hj
    have hget : (pre ++ c :: n)[pre.length + 1 + j]? = some n[j] := by
      rw [Nat.add_assoc, List.getElem?_append_right (Nat.le_add_right _ _), Nat.add_sub_cancel_left, Nat.add_comm,
        List.getElem?_cons_succ, List.getElem?_eq_getElem hlt]
    show lastSepBelow (pre ++ c :: n) (pre.length + 1 + j + 1) = some pre.length
    unfold lastSepBelow
    rw [hget]
    exact (if_neg (by rw [hn _ (List.getElem_mem hlt)]; decide)).trans (ih (Nat.le_of_lt hlt))

theorem findLastOf_range (s : Str) (pos : Nat) :
    findLastOf s pos = npos ∨ (findLastOf s pos < s.length ∧ findLastOf s pos ≤ pos) := by
  unfold findLastOf
  split
  · exact .inl rfl
  · split
    next i h =>
      exact .inr ⟨(lastSepBelow_some h).2.1, Nat.le_trans (Nat.le_of_lt_succ (lastSepBelow_some h).1) (Nat.min_le_right _ _)⟩
    next => exact .inl rfl

theorem length_sepShape (pre n : Str) (c : Char) : (pre ++ c :: n).length = pre.length + n.length + 1 := by
  rw [List.length_append, List.length_cons, Nat.add_assoc]

theorem findLastOf_append (pre n : Str) (c : Char) (hc : isSep c = true) (hn : sepFree n)
    (pos : Nat) (hpos : pre.length + n.length ≤ pos) : findLastOf (pre ++ c :: n) pos = pre.length := by
  unfold findLastOf
  rw [length_sepShape, if_neg (Nat.succ_ne_zero _), Nat.add_sub_cancel, Nat.min_eq_left hpos, Nat.add_right_comm,
    lastSepBelow_append pre n c hc hn _ (Nat.le_refl _)]

/-! ### `isAbsolutePath`, `join` -/

theorem findFrom_pos (c : Char) (s : Str) (i : Nat) (hi : 0 < i) : findFrom c s i ≠ 0 := by
  induction s generalizing i with
  | nil => exact (by decide : npos ≠ 0)
  | cons x r ih =>
    unfold findFrom
    split
    · exact Nat.ne_of_gt hi
    · exact ih (i + 1) (Nat.succ_pos i)

theorem isAbsolutePath_iff (s : Str) : isAbsolutePath s = true ↔ s.head? = some '/' := by
  cases s with
  | nil => exact ⟨fun h => absurd h (by decide), fun h => nomatch h⟩
  | cons x r =>
    unfold isAbsolutePath findFrom
    by_cases hx : x = '/'
    · subst hx; exact ⟨fun _ => rfl, fun _ => rfl⟩
    · rw [if_neg (by simpa [Separator] using hx)]
      exact ⟨fun h => absurd (beq_iff_eq.mp h) (findFrom_pos _ r 1 Nat.one_pos), fun h => absurd (Option.some.inj h) hx⟩

theorem sepFree_not_absolute {n : Str} (hn : sepFree n) : isAbsolutePath n = false := by
  cases n with
  | nil => rfl
  | cons x r =>
    refine Bool.eq_false_iff.mpr fun h => ?_
    cases Option.some.inj ((isAbsolutePath_iff _).mp h)
    exact absurd (hn '/' List.mem_cons_self) (by decide)

/-- the directory part that `join` keeps in front of its own separator -/
def stripOneSlash (d : Str) : Str := if d.getLast? = some '/' then d.dropLast else d

theorem length_stripOneSlash_le (d : Str) : (stripOneSlash d).length ≤ d.length := by
  unfold stripOneSlash
  split
  · rw [List.length_dropLast]; exact Nat.sub_le _ _
  · exact Nat.le_refl _

theorem length_join_shape_lt (d n : Str) (hlen : d.length + n.length + 1 < npos) :
    (stripOneSlash d ++ '/' :: n).length < npos := by
  have := length_stripOneSlash_le d
  rw [length_sepShape]
  omega

/-- `join d n` is `stripOneSlash d ++ "/" ++ n` for a non-empty `d` and a separator-free `n` -/
theorem join_shape (d n : Str) (hd : d ≠ []) (hn : sepFree n) :
    join d n = stripOneSlash d ++ '/' :: n := by
  unfold join stripOneSlash
  rw [dif_neg hd, if_neg (by rw [sepFree_not_absolute hn]; decide), List.getLast?_eq_some_getLast hd]
  by_cases hl : d.getLast hd = '/'
  · rw [if_neg (by rw [hl]; decide), if_pos (congrArg some hl)]
    conv => lhs; rw [← List.dropLast_concat_getLast hd, hl]
    exact List.append_assoc _ _ _
  · rw [if_pos (by simpa [Separator, SystemSeparator] using hl), if_neg (fun h => hl (Option.some.inj h))]
    exact List.append_assoc _ _ _

/-! ### name and parent of `pre ++ sep :: n` -/

/-- `parentTail` never leaves the string: `m_path` is at least as long as the working copy `path`, so its `erase` reaches the end -/
theorem parentTail_ok (m path : Str) (sp : Nat) (hlen : path.length ≤ m.length) (hsp : sp = npos ∨ sp < path.length) :
    parentTail m path sp = .ok (if sp = npos then [] else path.take sp) := by
  unfold parentTail
  by_cases h : sp = npos
  · rw [if_pos (beq_iff_eq.mpr h), if_pos h]
  · rw [if_neg (fun hb => h (beq_iff_eq.mp hb)), if_neg h]
    exact erase_to_end (Nat.le_of_lt (hsp.resolve_left h)) (Nat.le_trans (Nat.sub_le _ _) hlen)

/-- in `pre ++ sep :: n` with `n` non-empty and separator-free, `find_last_of` lands on `sep`, which is not the last character -/
theorem findLastOf_sepShape (pre n : Str) (c : Char) (hc : isSep c = true) (hn : sepFree n) (hne : n ≠ [])
    (hlen : (pre ++ c :: n).length < npos) :
    findLastOf (pre ++ c :: n) npos = pre.length ∧ (pre.length == usub (pre ++ c :: n).length 1) = false := by
  rw [length_sepShape] at hlen
  refine ⟨findLastOf_append pre n c hc hn npos (by omega), ?_⟩
  rw [length_sepShape, usub_of_le (Nat.le_add_left _ _) (Nat.le_of_lt hlen), Nat.add_sub_cancel, beq_eq_false_iff_ne]
  exact Nat.ne_of_lt (Nat.lt_add_of_pos_right (List.length_pos_iff.mpr hne))

/-- name of `pre ++ "/" ++ n` -/
theorem getPathName_shape (pre n : Str) (c : Char) (hc : isSep c = true) (hn : sepFree n) (hne : n ≠ [])
    (hlen : (pre ++ c :: n).length < npos) : getPathName (pre ++ c :: n) = .ok n := by
  obtain ⟨hf, hlast⟩ := findLastOf_sepShape pre n c hc hn hne hlen
  rw [length_sepShape] at hlen
  simp only [getPathName, hf, hlast, Bool.false_eq_true, if_false]
  rw [uadd_of_le (by omega), erase_zero, length_sepShape, Nat.min_eq_left (by omega), List.append_cons]
  exact congrArg _ (List.drop_left' (List.length_append ..))

/-- parent of `pre ++ "/" ++ n` -/
theorem getParentDirectory_shape (pre n : Str) (c : Char) (hc : isSep c = true) (hn : sepFree n) (hne : n ≠ [])
    (hlen : (pre ++ c :: n).length < npos) : getParentDirectory (pre ++ c :: n) = .ok pre := by
  obtain ⟨hf, hlast⟩ := findLastOf_sepShape pre n c hc hn hne hlen
  have hlt : pre.length < (pre ++ c :: n).length := by rw [length_sepShape]; omega
  simp only [getParentDirectory, hf, hlast, Bool.and_false, Bool.false_eq_true, if_false]
  rw [parentTail_ok _ _ _ (Nat.le_refl _) (.inr hlt), if_neg (Nat.ne_of_lt (Nat.lt_trans hlt hlen)), List.take_left]

end Tulz.PathStr
