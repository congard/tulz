import Tulz.Proofs.Router
/- Map order (`Sorted`) and the root's name are invariants of every router operation and so of every history.
   Core Lean only. -/
namespace Tulz.Router

variable {ρ : Type}

/-! ### names are never changed -/

@[simp] theorem notify_name {α : Type} (rm : ρ → String → Bool) (a : α) (p : List (Level ρ)) (cur) (n : Node) :
    (notify rm a p cur n).node.name = n.name := by
  cases p with
  | nil =>
    simp only [notify]
    split
    · split <;> simp
    · rfl
  | cons nxt rest =>
    simp only [notify]
    split
    · cases nxt with
      | re r => simp
      | str s => simp only []; split <;> simp
    · rfl

theorem lookupModify_name (f : Node → Node) (hf : ∀ c, (f c).name = c.name) (key : List String) (n : Node) :
    (lookupModify f key n).name = n.name := by
  cases key <;> simp [lookupModify, hf]

@[simp] theorem modifySubjAt_name (f : Subj → Subj) (key : List String) (n : Node) :
    (modifySubjAt f key n).name = n.name := by
  cases key with
  | nil => simp only [modifySubjAt]; split <;> simp
  | cons k ks => simp [modifySubjAt]

@[simp] theorem subscribeHere_name (id : Nat) (n : Node) : (subscribeHere id n).name = n.name := by
  simp only [subscribeHere]; split <;> simp

/-! ### the three ways an operation rewrites the children of a node -/

theorem sorted_map {n : Node} (h : Sorted n) {f : Node → Node} (hn : ∀ c, (f c).name = c.name)
    (hf : ∀ c ∈ n.children, Sorted (f c)) : Sorted (n.withChildren (n.children.map f)) := by
  refine (sorted_withChildren _ _).mpr ⟨(pairwise_map_names (R := (· < ·)) hn).mpr h.children_pairwise, ?_⟩
  intro c hc
  obtain ⟨c0, hc0, rfl⟩ := List.mem_map.mp hc
  exact hf c0 hc0

theorem sorted_updFirst {n : Node} (h : Sorted n) (s : String) {f : Node → Node} (hn : ∀ c, (f c).name = c.name)
    (hf : ∀ c ∈ n.children, Sorted (f c)) : Sorted (n.withChildren (updFirst s f n.children)) := by
  rw [updFirst_eq_map s f h.children_pairwise.distinct]
  refine sorted_map h (fun c => ?_) (fun c hc => ?_)
  · split
    · exact hn c
    · rfl
  · split
    · exact hf c hc
    · exact h.child hc

theorem sorted_prune {n : Node} (h : Sorted n) {f : Node → Node} (hn : ∀ c, (f c).name = c.name)
    (hf : ∀ c ∈ n.children, Sorted (f c)) : Sorted (prune f n) := by
  have := (sorted_withChildren _ _).mp (sorted_map h hn hf)
  exact (sorted_withChildren _ _).mpr ⟨this.1.filter _, fun c hc => this.2 c (List.mem_filter.mp hc).1⟩

theorem sorted_shrink (rm : ρ → String → Bool) (p : List (Level ρ)) (cur) (n : Node) (h : Sorted n) :
    Sorted (shrink rm p cur n) :=
  shrink_induct rm (P := fun _ n m => Sorted n → Sorted m) (fun _ h => h)
    (fun _ _ hn ih h => sorted_prune h hn (fun c hc => ih c hc (h.child hc))) p cur n h.wf h

theorem sorted_notify {α : Type} (rm : ρ → String → Bool) (a : α) (p : List (Level ρ)) (cur) (n : Node) (h : Sorted n) :
    Sorted (notify rm a p cur n).node := by
  induction p generalizing cur n with
  | nil =>
    simp only [notify]
    split
    · split
      · rw [sorted_withSubj]; exact h
      · exact h
    · exact h
  | cons nxt rest ih =>
    rw [notify_cons rm a nxt rest cur n h.wf.children_pairwise]
    split
    · exact sorted_map h (notify_name rm a rest nxt) (fun c hc => ih nxt c (h.child hc))
    · exact h

theorem sorted_modifySubjAt (f : Subj → Subj) (key : List String) (n : Node) (h : Sorted n) :
    Sorted (modifySubjAt f key n) := by
  induction key generalizing n with
  | nil =>
    simp only [modifySubjAt]
    split
    · rw [sorted_withSubj]; exact h
    · exact h
  | cons k ks ih => exact sorted_updFirst h k (modifySubjAt_name f ks) (fun c hc => ih c (h.child hc))

/-! ### subscribe: a new child goes to its place in map order -/

theorem insertSorted_perm (name : String) (l : List Node) : (insertSorted name l).Perm (Node.fresh name :: l) := by
  induction l with
  | nil => exact .refl _
  | cons c cs ih =>
    simp only [insertSorted]
    split
    · exact .refl _
    · exact (ih.cons c).trans (.swap _ _ _)

theorem insertChild_perm (name : String) (l : List Node) :
    (insertChild name l).Perm (if (findChild name l).isSome then l else Node.fresh name :: l) := by
  unfold insertChild
  split
  · exact .refl _
  · exact insertSorted_perm name l

theorem mem_insertChild {name : String} {l : List Node} {d : Node} (h : d ∈ insertChild name l) :
    d = Node.fresh name ∨ d ∈ l := by
  have := (insertChild_perm name l).mem_iff.mp h
  split at this
  · exact .inr this
  · exact List.mem_cons.mp this

theorem string_lt_of_not_lt_of_ne {a b : String} (h : ¬ a < b) (hne : b ≠ a) : b < a := by
  apply Classical.byContradiction
  intro h2
  exact hne (String.le_antisymm (String.not_lt.mp h) (String.not_lt.mp h2))

theorem sortedNames_insertSorted {name : String} {l : List Node} (h : SortedNames l) (hne : ∀ c ∈ l, c.name ≠ name) :
    SortedNames (insertSorted name l) := by
  unfold SortedNames at *
  induction l with
  | nil => simp [insertSorted]
  | cons c cs ih =>
    rw [List.pairwise_cons] at h
    simp only [insertSorted]
    split
    · rename_i hlt
      refine List.pairwise_cons.mpr ⟨?_, List.pairwise_cons.mpr h⟩
      intro d hd
      rcases List.mem_cons.mp hd with rfl | m
      · exact hlt
      · exact String.lt_trans hlt (h.1 d m)
    · rename_i hnlt
      refine List.pairwise_cons.mpr ⟨?_, ih h.2 (fun d hd => hne d (List.mem_cons_of_mem _ hd))⟩
      intro d hd
      rcases List.mem_cons.mp ((insertSorted_perm name cs).mem_iff.mp hd) with rfl | m
      · exact string_lt_of_not_lt_of_ne hnlt (hne c List.mem_cons_self)
      · exact h.1 d m

theorem sortedNames_insertChild {name : String} {l : List Node} (h : SortedNames l) : SortedNames (insertChild name l) := by
  unfold insertChild
  split
  · exact h
  · rename_i hf
    refine sortedNames_insertSorted h ?_
    cases hfc : findChild name l with
    | some c => simp [hfc] at hf
    | none => exact findChild_none hfc

theorem sorted_lookupModify (f : Node → Node) (hn : ∀ c, (f c).name = c.name) (hs : ∀ c, Sorted c → Sorted (f c))
    (key : List String) (n : Node) (h : Sorted n) : Sorted (lookupModify f key n) := by
  induction key generalizing n with
  | nil => exact hs n h
  | cons k ks ih =>
    have hins : Sorted (n.withChildren (insertChild k n.children)) := by
      refine (sorted_withChildren _ _).mpr ⟨sortedNames_insertChild h.children_pairwise, fun d hd => ?_⟩
      rcases mem_insertChild hd with rfl | m
      · exact sorted_fresh k
      · exact h.child m
    have := sorted_updFirst hins k (lookupModify_name f hn ks) (fun c hc => ih c (hins.child hc))
    simpa [lookupModify] using this

theorem sorted_subscribe (id : Nat) (key : List String) (n : Node) (h : Sorted n) : Sorted (subscribe id key n) := by
  refine sorted_lookupModify _ (subscribeHere_name id) ?_ key n h
  intro c hc
  simp only [subscribeHere]
  split <;> (rw [sorted_withSubj]; exact hc)

/-- the state after an operation that does not throw -/
theorem applyOp_ok {rm : ρ → String → Bool} {t t' : Node} {op : Op ρ} (h : applyOp rm t op = .ok t') :
    t' = match (generalizing := false) op with
      | .subscribe key id => subscribe id key t
      | .unsubscribe key id => modifySubjAt (fun s => s.unsubscribe id) key t
      | .invalidate key id => modifySubjAt (fun s => s.invalidate id) key t
      | .shrink p => shrink rm p rootLevel t
      | .notify p => (notify rm () p rootLevel t).node := by
  cases op with
  | subscribe key id | shrink p | notify p => exact (Except.ok.inj h).symm
  | unsubscribe key id | invalidate key id =>
    simp only [applyOp] at h
    split at h
    · cases h
    · split at h
      · exact (Except.ok.inj h).symm
      · cases h

theorem sorted_applyOp (rm : ρ → String → Bool) (t t' : Node) (op : Op ρ) (h : Sorted t)
    (hop : applyOp rm t op = .ok t') : Sorted t' := by
  rw [applyOp_ok hop]
  cases op with
  | subscribe key id => exact sorted_subscribe id key t h
  | unsubscribe key id | invalidate key id => exact sorted_modifySubjAt _ key t h
  | shrink p => exact sorted_shrink rm p _ t h
  | notify p => exact sorted_notify rm () p _ t h

theorem name_applyOp (rm : ρ → String → Bool) (t t' : Node) (op : Op ρ)
    (hop : applyOp rm t op = .ok t') : t'.name = t.name := by
  rw [applyOp_ok hop]
  cases op with
  | subscribe key id => exact lookupModify_name _ (subscribeHere_name id) key t
  | unsubscribe key id | invalidate key id => exact modifySubjAt_name _ key t
  | shrink p => exact shrink_name rm p _ t
  | notify p => exact notify_name rm () p _ t

theorem run_invariant (rm : ρ → String → Bool) (ops : List (Op ρ)) (t t' : Node) (h : Sorted t)
    (hr : run rm t ops = some t') : Sorted t' ∧ t'.name = t.name := by
  induction ops generalizing t with
  | nil => simp only [run, Option.some.injEq] at hr; exact hr ▸ ⟨h, rfl⟩
  | cons op ops ih =>
    simp only [run] at hr
    split at hr
    · rename_i t1 hop
      have := ih t1 (sorted_applyOp rm t t1 op h hop) hr
      exact ⟨this.1, this.2.trans (name_applyOp rm t t1 op hop)⟩
    · exact ih t h hr
    · cases hr

end Tulz.Router
