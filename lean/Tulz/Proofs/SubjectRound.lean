import Tulz.Proofs.SubjectTop
/-
  The shape of one notification round:
  * `Logs w w' cs`   the call log of what happened between `w` and `w'`
  * `turn_*`         who is called at its turn, for arbitrary callbacks (C10)
  * `round_plain`    the whole call log when callbacks only log (C05, C16)
-/
namespace Tulz.Subject
variable {α : Type}

theorem evsSince_of_trace {w w' : World α} {evs : List (Ev α)} (h : w'.trace = w.trace ++ evs) : evsSince w w' = evs := by
  unfold evsSince; rw [h]; exact List.drop_left

theorem evsSince_self (w : World α) : evsSince w w = [] := List.drop_length

theorem calls_append (a b : List (Ev α)) : calls (a ++ b) = calls a ++ calls b := by
  induction a with
  | nil => rfl
  | cons e a ih => cases e <;> simp [calls, ih]

theorem calls_frees (g : List Nat) : calls (g.map (Ev.free : Nat → Ev α)) = [] := by
  induction g with
  | nil => rfl
  | cons x g ih => exact ih

theorem mem_calls {evs : List (Ev α)} {i : Nat} {a : α} : (i, a) ∈ calls evs ↔ Ev.enter i a ∈ evs := by
  induction evs with
  | nil => simp [calls]
  | cons e es ih => cases e <;> simp [calls, ih]

/-- the trace has grown from `w` to `w'`, and the calls among the new events are `cs` -/
def Logs (w w' : World α) (cs : List (Nat × α)) : Prop := ∃ evs, w'.trace = w.trace ++ evs ∧ calls evs = cs

theorem Logs.refl (w : World α) : Logs w w [] := ⟨[], (List.append_nil _).symm, rfl⟩

theorem Logs.trans {w₁ w₂ w₃ : World α} {a b : List (Nat × α)} (h₁ : Logs w₁ w₂ a) (h₂ : Logs w₂ w₃ b) :
    Logs w₁ w₃ (a ++ b) := by
  obtain ⟨e₁, t₁, rfl⟩ := h₁
  obtain ⟨e₂, t₂, rfl⟩ := h₂
  exact ⟨e₁ ++ e₂, by rw [t₂, t₁, List.append_assoc], calls_append ..⟩

theorem Logs.trans_quiet {w₁ w₂ w₃ : World α} {a : List (Nat × α)} (h₁ : Logs w₁ w₂ a) (h₂ : Logs w₂ w₃ []) : Logs w₁ w₃ a :=
  List.append_nil a ▸ h₁.trans h₂

theorem Logs.calls {w w' : World α} {cs : List (Nat × α)} (h : Logs w w' cs) : calls (evsSince w w') = cs := by
  obtain ⟨evs, t, rfl⟩ := h
  rw [evsSince_of_trace t]

/-- `unsubscribeById` calls nobody -/
theorem unsubById_logs (w : World α) (i : Nat) : Logs w (w.unsubscribeById i) [] := by
  unfold World.unsubscribeById
  split
  · exact .refl w
  · split
    · exact .refl w
    · exact ⟨[.free _], rfl, rfl⟩

theorem reap_logs (w : World α) (i : Nat) : Logs w (reap w i) [] := by
  have h : Logs w (w.emit (.touch i)) [] := ⟨[.touch i], rfl, rfl⟩
  unfold reap
  split
  · simp only []
    split
    · exact h
    · split
      · exact h.trans (unsubById_logs _ i)
      · exact h
  · exact .refl w

/-- unsubscribing through the handle table calls nobody and subscribes nobody -/
theorem unsubSlot_sub (w : World α) (hi : Nat) :
    Logs w (w.unsubSlot hi).1 [] ∧ ∀ o ∈ (w.unsubSlot hi).1.obs, o ∈ w.obs := by
  rcases unsubSlot_cases w hi with e | ⟨i, _, e⟩ <;> rw [e]
  · exact ⟨.refl w, fun _ h => h⟩
  · exact ⟨unsubById_logs w i, fun _ h => List.mem_of_mem_eraseP ((unsubById_frame w i).2.1 ▸ h)⟩

/-- called at its turn: subscribed, valid and not muted in the state the round has reached -/
def Eligible (w : World α) (i : Nat) : Prop :=
  i ∈ w.active ∧ ∃ o ∈ w.obs, o.id = i ∧ o.valid = true ∧ o.muted = false

section
variable (lib : Nat → List Action)

/-- subscribed, valid and unmuted at its turn: called, and the call is the first thing that happens -/
theorem turn_called {inner : World α → α → World α} (hin : ∀ a, Good (fun w => inner w a))
    {w : World α} (hw : WF w) (hd : 0 < w.depth) {i : Nat} (he : Eligible w i) (a : α) :
    ∃ rest, evsSince w (turn lib inner w i a) = .touch i :: .enter i a :: rest := by
  obtain ⟨hi, o, ho, hid, hv, hm⟩ := he
  have hl : w.lookup i = some o := hid ▸ hw.lookup_obs ho
  obtain ⟨evs, t, _⟩ := (runScript_inRound lib hin a o.script ((hw.emit (.touch i)).emit (.enter i a)) hd
    (Or.inl ((hw.act i).1 hi))).ext.tr
  obtain ⟨evs', t', _⟩ := reap_logs (invoke lib inner w i a) i
  refine ⟨evs ++ .exit i :: evs', evsSince_of_trace ?_⟩
  rw [turn_active lib inner hi, t', invoke_eq lib inner hl, hv, hm]
  show ((runScript lib inner i a ((w.emit (.touch i)).emit (.enter i a)) o.script).trace ++ [.exit i]) ++ evs' = _
  rw [t]
  show (((w.trace ++ [.touch i]) ++ [.enter i a]) ++ evs ++ [.exit i]) ++ evs' = _
  simp

/-- subscribed but muted or invalid at its turn: not called -/
theorem turn_not_called (inner : World α → α → World α)
    {w : World α} (hw : WF w) {i : Nat} (hi : i ∈ w.active) (hne : ¬ Eligible w i) (a : α) :
    calls (evsSince w (turn lib inner w i a)) = [] := by
  obtain ⟨o, ho, hid, hl⟩ := hw.active_lookup hi
  have hc : ¬ (!o.muted && o.valid) = true := fun h =>
    have h := Bool.and_eq_true_iff.1 h
    hne ⟨hi, o, ho, hid, h.2, by simpa using h.1⟩
  rw [turn_active lib inner hi, invoke_eq lib inner hl, if_neg hc]
  exact (Logs.trans ⟨[.touch i], rfl, rfl⟩ (reap_logs (w.emit (.touch i)) i)).calls

end

/-! ### callbacks that only log -/

def Plain (w : World α) : Prop := ∀ o ∈ w.obs, o.script = []

/-- executable form of `Eligible` -/
def el (w : World α) (i : Nat) : Bool :=
  decide (i ∈ w.active) && (match w.obs.find? (fun o => o.id == i) with
    | some o => !o.muted && o.valid
    | none => false)

theorem find?_eraseP_ne {l : List Obs} {i j : Nat} (h : j ≠ i) :
    (l.eraseP (fun o => o.id == i)).find? (fun o => o.id == j) = l.find? (fun o => o.id == j) := by
  induction l with
  | nil => rfl
  | cons x l ih =>
    by_cases hx : (x.id == i) = true
    · have hxj : (x.id == j) = false := beq_false_of_ne fun e => h (e ▸ eq_of_beq hx)
      rw [List.eraseP_cons_of_pos (p := fun o : Obs => o.id == i) hx, List.find?_cons, hxj]
    · rw [List.eraseP_cons_of_neg (p := fun o : Obs => o.id == i) hx, List.find?_cons, List.find?_cons, ih]

theorem el_of_mem {w : World α} (hw : WF w) {o : Obs} (ho : o ∈ w.obs) : el w o.id = (!o.muted && o.valid) := by
  unfold el
  rw [find?_of_mem_nodup hw.nd_obs ho, decide_eq_true ((hw.act _).2 (mem_ids.2 ⟨o, ho, rfl⟩))]
  rfl

/-- unsubscribing somebody who is not eligible changes nobody's eligibility -/
theorem el_unsub {w : World α} {i : Nat} (hi : el w i = false) (j : Nat) : el (w.unsubscribeById i) j = el w j := by
  obtain ⟨ha, ho, _⟩ := unsubById_frame w i
  by_cases hj : j = i
  · rw [hj, hi]
    unfold el
    rw [ha, decide_eq_false (fun h => (mem_eraseSet.1 h).2 rfl)]
    rfl
  · unfold el
    rw [ha, ho, find?_eraseP_ne hj, decide_eq_decide.2 (mem_eraseSet.trans (and_iff_left hj))]

section
variable (lib : Nat → List Action)

/-- the call of an observer that only logs: nothing but the trace changes -/
theorem invoke_plain (inner : World α → α → World α) {w : World α} {i : Nat} {o : Obs} (hl : w.lookup i = some o)
    (hs : o.script = []) (a : α) :
    ∃ evs, invoke lib inner w i a = { w with trace := w.trace ++ evs } ∧
      calls evs = if !o.muted && o.valid then [(i, a)] else [] := by
  rw [invoke_eq lib inner hl, hs]
  split
  · exact ⟨[.touch i, .enter i a, .exit i], by simp [runScript, World.emit], rfl⟩
  · exact ⟨[.touch i], rfl, rfl⟩

/-- one turn when callbacks only log: the observer is called iff eligible; nobody's eligibility changes, because an
    observer is removed only when it is invalid -/
theorem turn_plain (inner : World α → α → World α) {w : World α} (hw : WF w) (hp : Plain w) (i : Nat) (a : α) :
    Logs w (turn lib inner w i a) (if el w i then [(i, a)] else []) ∧
    (∀ j, el (turn lib inner w i a) j = el w j) ∧
    (∀ o ∈ (turn lib inner w i a).obs, o ∈ w.obs) := by
  by_cases hi : i ∈ w.active
  · obtain ⟨o, ho, hid, hl⟩ := hw.active_lookup hi
    have hel : el w i = (!o.muted && o.valid) := hid ▸ el_of_mem hw ho
    obtain ⟨evs, e, c⟩ := invoke_plain lib inner hl (hp o ho) a
    rw [turn_active lib inner hi, e, reap_eq (w := { w with trace := w.trace ++ evs }) hi hl, hel]
    have h : Logs w (World.emit { w with trace := w.trace ++ evs } (.touch i)) (if !o.muted && o.valid then [(i, a)] else []) :=
      Logs.trans_quiet ⟨evs, rfl, c⟩ ⟨[Ev.touch i], rfl, rfl⟩
    split
    · next hv =>
      have hne : el (World.emit { w with trace := w.trace ++ evs } (.touch i)) i = false := by
        rw [show el (World.emit { w with trace := w.trace ++ evs } (.touch i)) i = el w i from rfl, hel,
            show o.valid = false by simpa using hv, Bool.and_false]
      exact ⟨h.trans_quiet (unsubById_logs _ i), el_unsub hne,
             fun _ ho => List.mem_of_mem_eraseP ((unsubById_frame _ i).2.1 ▸ ho)⟩
    · exact ⟨h, fun _ => rfl, fun _ h => h⟩
  · rw [turn_skipped lib inner w i a hi]
    have : el w i = false := by unfold el; rw [decide_eq_false hi]; rfl
    exact ⟨this ▸ .refl w, fun _ => rfl, fun _ h => h⟩

/-- a whole round when callbacks only log: exactly the eligible members of the snapshot, in order -/
theorem round_plain {inner : World α → α → World α} (hin : ∀ a, Good (fun w => inner w a)) (a : α) (snap : List Nat)
    {w : World α} (hw : WF w) (hd : 0 < w.depth) (hp : Plain w) :
    Logs w (round lib inner snap w a) ((snap.filter (el w)).map (fun i => (i, a))) ∧
    (∀ o ∈ (round lib inner snap w a).obs, o ∈ w.obs) := by
  induction snap generalizing w with
  | nil => exact ⟨.refl w, fun _ h => h⟩
  | cons i is ih =>
    obtain ⟨l₁, hel, hsub⟩ := turn_plain lib inner hw hp i a
    have h := turn_inRound lib hin hw hd i a
    obtain ⟨l₂, hsub₂⟩ := ih h.wf (h.depth ▸ hd) (fun o ho => hp o (hsub o ho))
    refine ⟨?_, fun o ho => hsub o (hsub₂ o ho)⟩
    rw [List.filter_congr (fun j _ => hel j)] at l₂
    have l := l₁.trans l₂
    rw [List.filter_cons]
    cases h : el w i <;> rw [h] at l <;> exact l

/-- the outermost `notify` when callbacks only log -/
theorem notify_plain (fuel : Nat) {w : World α} (hw : WF w) (hd : w.depth = 0) (hp : Plain w) (a : α) :
    calls (evsSince w (notify lib fuel w a)) = (w.order.filter (fun o => o.valid && !o.muted)).map (fun o => (o.id, a)) ∧
    (∀ o ∈ (notify lib fuel w a).obs, o ∈ w.obs) := by
  obtain ⟨inner, hin, e⟩ := notify_outer lib fuel hw hd a
  obtain ⟨l, hsub⟩ := round_plain lib hin a w.snapshot hw.bump (Nat.succ_pos _) hp
  rw [e]
  generalize round lib inner w.snapshot { w with depth := w.depth + 1 } a = R at l hsub
  refine ⟨?_, hsub⟩
  -- the destructions at the end call nobody
  have l' : Logs w (World.clearGrave { R with depth := 0 }) _ := l.trans_quiet ⟨_, rfl, calls_frees _⟩
  rw [l'.calls]
  -- from the ids of the snapshot back to the observers
  unfold World.snapshot World.order ids
  rw [List.filter_map, List.map_map]
  refine congrArg _ (List.filter_congr fun o ho => ?_)
  exact (el_of_mem hw (List.mem_reverse.1 ho)).trans (Bool.and_comm ..)

end

/-- no callback of an id that is dead (issued, but unsubscribed or invalid) runs in any later history -/
theorem never_again (lib : Nat → List Action) {w : World α} (hw : WF w) (hd : w.depth = 0) {i : Nat}
    (hi : i < w.counter) (hdead : ¬ Live w i) (ops : List (Op α)) (a : α) :
    (i, a) ∉ calls (evsSince w (run lib w ops)) := by
  obtain ⟨evs, ht, hen, _⟩ := (run_atTop lib ops hw hd).top.tr
  rw [evsSince_of_trace ht, mem_calls]
  intro h
  exact (hen i a h).elim hdead fun h => absurd hi (Nat.not_lt.2 h)

theorem not_live_of_invalid {w : World α} (hw : WF w) {o : Obs} (ho : o ∈ w.obs) (hv : o.valid = false) : ¬ Live w o.id := by
  rintro ⟨_, o', ho', hid, hv'⟩
  -- the observer with this id is `o`
  cases Option.some.inj ((hw.lookup_obs ho).symm.trans (hid ▸ hw.lookup_obs ho'))
  rw [hv] at hv'; cases hv'

/-- the memory monitor accepts the whole trace of every history that starts from a fresh subject -/
theorem history_safe (lib : Nat → List Action) (sid : Nat) (ops : List (Op α)) :
    (∃ m, Mon.run {} (run lib ({ sid := sid } : World α) ops).trace = some m ∧ MonInv (run lib ({ sid := sid } : World α) ops) m) ∧
    (run lib ({ sid := sid } : World α) ops).ub = false := by
  have t := (run_atTop lib ops (WF.init (α := α) sid) rfl).top
  obtain ⟨evs, ht, _, hm⟩ := t.tr
  obtain ⟨m', r, inv⟩ := hm {} ⟨rfl, List.forall_mem_nil _⟩
  exact ⟨⟨m', ht ▸ r, inv⟩, t.ub⟩

end Tulz.Subject
