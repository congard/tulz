import Tulz.Proofs.Rwp.Inv
/-
  C12: readers share.  A second invariant (`Inv8`: readers only ever queue behind a writer) gives the reader fast path;
  the shape of the queue gives whole-entry admission.
-/
namespace Rwp

/-- clause 8: a read entry at the head of the queue means a writer is active -/
def Inv8 (s : State) : Prop := ∀ e q, s.sh.queue = e :: q → e.kind = .read → s.sh.act = .write

theorem inv8_init (n) : Inv8 (init n) := by intro e q h; cases h

theorem inv8_step {s t : State} (I : Inv s) (I8 : Inv8 s) (h : Step s t) : Inv8 t := by
  cases h with
  | callFast i k hi hf =>
    intro e q (hq : s.sh.queue = e :: q); rw [(fast_spec hf).1] at hq; cases hq
  | callSlow i k hi hf =>
    intro e q hq hk
    rw [enqueue_eq] at hq ⊢
    show s.sh.act = .write
    replace hq : enq (s.sh.idc + 1) k s.sh.queue = e :: q := hq
    cases hq0 : s.sh.queue with
    | nil =>
      -- the new entry is the head, so k = read; the slow path with an empty queue means a writer is active
      rw [hq0] at hq; cases hq
      have hne := not_fast_act hf (fun h => (I.none_q h).1)
      cases hact : s.sh.act with
      | none => exact absurd hact hne
      | read => cases (show k = .read from hk); simp [fast, hq0, hact] at hf
      | write => rfl
    | cons e0 q0 =>
      obtain ⟨e', q', hq', hk'⟩ := enq_head (s.sh.idc + 1) k e0 q0
      rw [hq0, hq'] at hq; cases hq
      exact I8 e0 q0 hq0 (hk' ▸ hk)
  | wakeOk i k id n hi h => exact I8
  | wakeNo i k id n hi h => exact I8
  | unlockLast i k hi h =>
    obtain ⟨⟨q0, a, c, ic, b⟩, ths⟩ := s
    intro e q hq hk
    cases q0 with
    | nil => cases hq
    | cons e0 q0 =>
      cases (show q0 = e :: q from hq)
      show e0.kind.act = .write
      rw [I.qwf.read_next hk]; rfl
  | unlockMore i k hi h => exact I8
  | notify i hi => exact I8

theorem reach_inv8 {n s} (h : Reach n s) : Inv8 s := by
  induction h with
  | init => exact inv8_init n
  | step hr hs ih => exact inv8_step (reach_inv hr) ih hs

/-- no write request is active or waiting -/
def noWriter (s : State) : Prop := ∀ p ∈ s.ths, p.kind? ≠ some .write

/-- **C12 (first clause)**: with no writer active or waiting, a read request takes the fast path — it never parks. -/
theorem C12_reader_fast (n : Nat) (s : State) (h : Reach n s) (hw : noWriter s) : fast s.sh .read = true := by
  have I := reach_inv h
  have hact : s.sh.act ≠ .write := by
    intro ha
    have hc : 0 < s.sh.count := Nat.pos_of_ne_zero fun h0 => by have := I.none_iff.2 h0; rw [ha] at this; cases this
    rw [I.count, List.countP_pos_iff] at hc
    obtain ⟨p, hp, hin⟩ := hc
    obtain ⟨k, hk⟩ := inside_kind_some hin
    cases Kind.act_inj (k' := .write) ((I.kinds p hp hin k hk).trans ha)
    exact hw p hp hk
  have hq : s.sh.queue = [] := by
    cases hq0 : s.sh.queue with
    | nil => rfl
    | cons e q =>
      exfalso
      cases hk : e.kind with
      | read => exact hact (reach_inv8 h e q hq0 hk)
      | write =>
        -- ticket `bound` is pending and belongs to a writer
        obtain ⟨h1, h2, _, _⟩ := (hq0 ▸ I.qwf).head_ub
        obtain ⟨k, nn, hp, hkq⟩ := I.ticket_owner (Nat.le_refl _) (Nat.lt_of_lt_of_le h1 h2)
        rw [hq0, kindAt, if_pos h1, hk] at hkq; cases hkq
        exact hw _ hp rfl
  cases ha : s.sh.act with
  | none => simp [fast, hq, ha]
  | read => simp [fast, hq, ha]
  | write => exact absurd ha hact

/-- consecutive read tickets lie in one queue entry: relative to the head entry they are admitted together -/
theorem QWF.same_entry {lo hi e q} (h : QWF lo hi (e :: q)) (i j : Nat) (hij : i < j)
    (hr : ∀ t, i ≤ t → t ≤ j → kindAt (e :: q) t = some .read) : (i < e.ub ↔ j < e.ub) := by
  refine ⟨fun hi' => Classical.byContradiction fun hnj => ?_, fun hj' => by omega⟩
  -- ticket i is in the head entry, so the head is a read entry
  have h1 := hr i (Nat.le_refl _) (by omega)
  rw [kindAt, if_pos hi'] at h1
  -- ticket e.ub is the first ticket of the next entry and must be a read as well
  have h2 := hr e.ub (by omega) (by omega)
  rw [kindAt, if_neg (Nat.lt_irrefl _)] at h2
  obtain ⟨_, _, hq, _⟩ := h.head_ub
  cases q with
  | nil => cases h2
  | cons e2 q2 =>
    rw [kindAt, if_pos hq.head_ub.1] at h2
    have := h.read_next (Option.some.inj h2)
    rw [Option.some.inj h1] at this; cases this

/-- **C12 (second clause)**: read requests queued consecutively (no write ticket between them) are admitted by the
    same step — "granted together". -/
theorem C12_batch_together (n : Nat) (s t : State) (h : Reach n s) (hst : Step s t)
    (a b : Nat) (ida idb : Nat) (na nb : Bool)
    (ha : s.ths[a]? = some (.waiting .read ida na)) (hb : s.ths[b]? = some (.waiting .read idb nb))
    (hpa : s.sh.bound ≤ ida) (hab : ida < idb)
    (hnw : ∀ p ∈ s.ths, ∀ id nn, p = .waiting .write id nn → ¬ (ida < id ∧ id < idb)) :
    (ida < t.sh.bound ↔ idb < t.sh.bound) := by
  have I := reach_inv h
  have hidb := I.ticket_lt (List.mem_of_getElem? hb) (by omega)
  -- every ticket between the two is a read ticket
  have hreads : ∀ tk, ida ≤ tk → tk ≤ idb → kindAt s.sh.queue tk = some .read := by
    intro tk h1 h2
    obtain ⟨k, nn, hp, hk⟩ := I.ticket_owner (id := tk) (by omega) (by omega)
    cases k with
    | read => exact hk
    | write =>
      have hne := hnw _ hp tk nn rfl
      have hka := I.kindsQ _ (List.mem_of_getElem? ha) .read ida na rfl hpa
      have hkb := I.kindsQ _ (List.mem_of_getElem? hb) .read idb nb rfl (by omega)
      have h3 : tk ≠ ida := fun e => by rw [e, hka] at hk; cases hk
      have h4 : tk ≠ idb := fun e => by rw [e, hkb] at hk; cases hk
      exact absurd ⟨by omega, by omega⟩ hne
  have hsame : t.sh.bound = s.sh.bound → (ida < t.sh.bound ↔ idb < t.sh.bound) := by
    intro e; rw [e]; constructor <;> intro <;> omega
  cases hst with
  | callFast i k hi hf => exact hsame rfl
  | callSlow i k hi hf => exact hsame (enqueue_bound ..)
  | wakeOk i k id nn hi hh => exact hsame rfl
  | wakeNo i k id nn hi hh => exact hsame rfl
  | unlockMore i k hi hh => exact hsame rfl
  | notify i hi => exact hsame rfl
  | unlockLast i k hi hh =>
    obtain ⟨⟨q, _, _, _, _⟩, _⟩ := s
    cases q with
    | nil => exact ⟨nofun, nofun⟩
    | cons e q => exact I.qwf.same_entry ida idb hab hreads

end Rwp
