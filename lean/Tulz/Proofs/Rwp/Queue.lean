import Tulz.Model.Rwp
/-
  The request queue of `Resource`: well-formedness `QWF`, the ticket → kind look-up `kindAt`, and what `enqueue` and `select` do to both.
-/
namespace Rwp

/-! Queue well-formedness relative to `lo` (= bound) and `hi` (= idCounter). -/
inductive QWF : Nat → Nat → List QE → Prop
  | nil (lo : Nat) : QWF lo lo []
  | write (lo hi : Nat) (q : List QE) : QWF (lo+1) hi q → QWF lo hi (⟨.write, lo+1⟩ :: q)
  | read (lo ub hi : Nat) (q : List QE) : lo < ub → QWF ub hi q →
      (∀ e, q.head? = some e → e.kind = .write) → QWF lo hi (⟨.read, ub⟩ :: q)

/-- kind of the queue entry covering ticket `id`. -/
def kindAt : List QE → Nat → Option Kind
  | [], _ => none
  | e :: q, id => if id < e.ub then some e.kind else kindAt q id

theorem QWF.le {lo hi q} (h : QWF lo hi q) : lo ≤ hi := by
  induction h with
  | nil => exact Nat.le_refl _
  | write lo hi q _ ih => omega
  | read lo ub hi q hlt _ _ ih => omega

theorem QWF.eq_of_nil {lo hi} (h : QWF lo hi []) : lo = hi := by cases h; rfl

theorem QWF.head_ub {lo hi e q} (h : QWF lo hi (e :: q)) : lo < e.ub ∧ e.ub ≤ hi ∧ QWF e.ub hi q ∧
    (e.kind = .write → e.ub = lo + 1) := by
  cases h with
  | write _ _ _ h' => exact ⟨Nat.lt_succ_self _, h'.le, h', fun _ => rfl⟩
  | read _ ub _ _ hlt h' _ => exact ⟨hlt, h'.le, h', nofun⟩

/-- no two adjacent read entries -/
theorem QWF.read_next {lo hi e0 e q} (h : QWF lo hi (e0 :: e :: q)) (hk : e.kind = .read) : e0.kind = .write := by
  cases h with
  | write => rfl
  | read _ _ _ _ _ _ hhead => rw [hhead e rfl] at hk; cases hk

theorem QWF.kindAt_ge {lo hi q} (h : QWF lo hi q) (id : Nat) (hid : hi ≤ id) : kindAt q id = none := by
  induction h with
  | nil => rfl
  | write lo hi q hq ih => have := hq.le; rw [kindAt, if_neg (by show ¬ id < lo + 1; omega)]; exact ih hid
  | read lo ub hi q _ hq _ ih => have := hq.le; rw [kindAt, if_neg (by show ¬ id < ub; omega)]; exact ih hid

theorem QWF.kindAt_none_ge {lo hi q} (h : QWF lo hi q) : kindAt q hi = none :=
  h.kindAt_ge hi (Nat.le_refl _)

theorem QWF.kindAt_lt {lo hi q} (h : QWF lo hi q) (id : Nat) (hlo : lo ≤ id) (hid : id < hi) :
    ∃ k, kindAt q id = some k := by
  induction h with
  | nil => omega
  | write lo hi q hq ih =>
    simp only [kindAt]; split
    · exact ⟨_, rfl⟩
    · exact ih (by omega) hid
  | read lo ub hi q _ hq _ ih =>
    simp only [kindAt]; split
    · exact ⟨_, rfl⟩
    · exact ih (by omega) hid

theorem getLast?_cons_cons {α} (a b : α) (l : List α) : (a :: b :: l).getLast? = (b :: l).getLast? := by
  simp [List.getLast?_cons_cons]

theorem QWF.getLast_ub {lo hi q e} (h : QWF lo hi q) (he : q.getLast? = some e) : e.ub = hi := by
  induction h with
  | nil => cases he
  | write lo hi q hq ih =>
    cases q with
    | nil => cases he; exact hq.eq_of_nil
    | cons e' q => exact ih (getLast?_cons_cons .. ▸ he)
  | read lo ub hi q _ hq _ ih =>
    cases q with
    | nil => cases he; exact hq.eq_of_nil
    | cons e' q => exact ih (getLast?_cons_cons .. ▸ he)

/-! ### `enqueue` -/

/-- the queue after `enqueue` with new bound `c`, by recursion on the queue: a read request joins a read entry at the
    back, every other request gets an entry of its own -/
def enq (c : Nat) (k : Kind) : List QE → List QE
  | [] => [⟨k, c⟩]
  | a :: q => if q = [] ∧ k = .read ∧ a.kind = .read then [⟨.read, c⟩] else a :: enq c k q

theorem enq_cons {c k a q} (h : ¬ (q = [] ∧ k = .read ∧ a.kind = .read)) : enq c k (a :: q) = a :: enq c k q :=
  if_neg h

theorem enqueue_eq (s : Sh) (k : Kind) : enqueue s k = { s with queue := enq s.idc k s.queue } := by
  have hw : ∀ q : List QE, q ++ [⟨.write, s.idc⟩] = enq s.idc .write q := by
    intro q
    induction q with
    | nil => rfl
    | cons a q ih => rw [enq_cons (by simp), ← ih]; rfl
  have hr : ∀ q : List QE, (match q.getLast? with
      | none => [⟨.read, s.idc⟩]
      | some e => if e.kind = .read then q.dropLast ++ [⟨.read, s.idc⟩] else q ++ [⟨.read, s.idc⟩]) =
        enq s.idc .read q := by
    intro q
    induction q with
    | nil => rfl
    | cons a q ih => cases q with
      | nil => simp [enq]
      | cons b q =>
        rw [enq_cons (by simp), ← ih, getLast?_cons_cons]
        cases h : (b :: q).getLast? with
        | none => simp at h
        | some e => simp only []; split <;> rfl
  cases k with
  | write => simp only [enqueue, hw]
  | read =>
    simp only [enqueue, ← hr]
    cases s.queue.getLast? with
    | none => rfl
    | some e => simp only []; split <;> rfl

@[simp] theorem enqueue_act (s : Sh) (k : Kind) : (enqueue s k).act = s.act := by rw [enqueue_eq]
@[simp] theorem enqueue_count (s : Sh) (k : Kind) : (enqueue s k).count = s.count := by rw [enqueue_eq]
@[simp] theorem enqueue_idc (s : Sh) (k : Kind) : (enqueue s k).idc = s.idc := by rw [enqueue_eq]
@[simp] theorem enqueue_bound (s : Sh) (k : Kind) : (enqueue s k).bound = s.bound := by rw [enqueue_eq]

/-- the head entry keeps its kind -/
theorem enq_head (c k a q) : ∃ a' q', enq c k (a :: q) = a' :: q' ∧ a'.kind = a.kind := by
  by_cases h : q = [] ∧ k = .read ∧ a.kind = .read
  · exact ⟨_, _, if_pos h, h.2.2.symm⟩
  · exact ⟨_, _, if_neg h, rfl⟩

theorem qwf_enq {lo hi q} (h : QWF lo hi q) (k : Kind) : QWF lo (hi+1) (enq (hi+1) k q) := by
  induction h with
  | nil lo =>
    cases k with
    | read => exact QWF.read lo _ _ [] (Nat.lt_succ_self _) (QWF.nil _) nofun
    | write => exact QWF.write lo _ [] (QWF.nil _)
  | write lo hi q hq ih => rw [enq_cons (by simp)]; exact QWF.write lo _ _ ih
  | read lo ub hi q hlt hq hhead ih =>
    by_cases hm : q = [] ∧ k = .read ∧ (⟨.read, ub⟩ : QE).kind = .read
    · have := hq.le
      rw [enq, if_pos hm]
      exact QWF.read lo _ _ [] (by omega) (QWF.nil _) nofun
    · rw [enq_cons hm]
      refine QWF.read lo ub _ _ hlt ih ?_
      cases q with
      | nil => cases k with
        | read => simp at hm
        | write => intro e he; cases he; rfl
      | cons b q =>
        obtain ⟨b', q', hb, hk⟩ := enq_head (hi+1) k b q
        rw [hb]; intro e he; cases he; rw [hk]; exact hhead b rfl

/-- lookups after enqueue: the new ticket `hi` gets kind `k`, other tickets are unchanged. -/
theorem kindAt_enq {lo hi q} (h : QWF lo hi q) (k : Kind) (id : Nat) (hlo : lo ≤ id) :
    kindAt (enq (hi+1) k q) id = if id = hi then some k else kindAt q id := by
  induction h with
  | nil lo =>
    simp only [enq, kindAt]
    by_cases h : id = lo
    · rw [if_pos h, if_pos (by omega)]
    · rw [if_neg h, if_neg (by omega)]
  | write lo hi q hq ih =>
    have := hq.le
    rw [enq_cons (by simp)]; simp only [kindAt]
    split
    · rw [if_neg (by omega)]
    · exact ih (by omega)
  | read lo ub hi q hlt hq hhead ih =>
    have := hq.le
    by_cases hm : q = [] ∧ k = .read ∧ (⟨.read, ub⟩ : QE).kind = .read
    · rw [enq, if_pos hm]
      obtain ⟨rfl, rfl, _⟩ := hm
      cases hq.eq_of_nil
      simp only [kindAt]
      by_cases h : id < ub
      · rw [if_pos h, if_pos (by omega), if_neg (by omega)]
      · by_cases h' : id = ub
        · rw [if_pos h', if_pos (by omega)]
        · rw [if_neg h, if_neg h', if_neg (by omega)]
    · rw [enq_cons hm]; simp only [kindAt]
      split
      · rw [if_neg (by omega)]
      · exact ih (by omega)

end Rwp
