import Tulz.Proofs.Rwp.Inv
/-
  C02: liveness on the system with per-thread programs and without spurious wake-ups (`XStep`): some step is enabled
  unless everybody is done, the idle state is restored, and every step decreases a measure.
-/
namespace Rwp

/-- every extended step is a step of the base system -/
theorem XStep.base_step {x y : XState} (h : XStep x y) : Step x.base y.base := by
  cases h with
  | callFast i k rest hp hi hf => exact Step.callFast _ i k hi hf
  | callSlow i k rest hp hi hf => exact Step.callSlow _ i k hi hf
  | wakeOk i k id hi h => exact Step.wakeOk _ i k id true hi h
  | wakeNo i k id hi h => exact Step.wakeNo _ i k id true hi h
  | unlockLast i k hi h => exact Step.unlockLast _ i k hi h
  | unlockMore i k hi h => exact Step.unlockMore _ i k hi h
  | notify i hi => exact Step.notify _ i hi

theorem XReach.base_reach {ps x} (h : XReach ps x) : Reach ps.length x.base := by
  induction h with
  | init => exact Reach.init
  | step _ hs ih => exact Reach.step ih hs.base_step

theorem XReach.inv {ps x} (h : XReach ps x) : Inv x.base := reach_inv h.base_reach

/-- the two lists stay aligned -/
theorem XReach.len {ps x} (h : XReach ps x) : x.base.ths.length = x.progs.length := by
  induction h with
  | init => simp [xinit, Rwp.init]
  | step _ hs ih => cases hs <;> simp_all

theorem progs_at {ps x} (h : XReach ps x) {i : Nat} {p : Pc} (hi : x.base.ths[i]? = some p) : ∃ pr, x.progs[i]? = some pr :=
  ⟨_, List.getElem?_eq_getElem (h.len ▸ lt_len_of_get hi)⟩

/-- a thread is finished when it is idle and has nothing left to do -/
def doneAt (x : XState) (i : Nat) : Prop := x.base.ths[i]? = some .idle ∧ x.progs[i]? = some []
def allDone (x : XState) : Prop := ∀ i, i < x.base.ths.length → doneAt x i

/-! ### an admitted waiter gets in: by its own wake-up once it has been notified, and it is notified by a `notify_all`
    that the invariant says is still pending -/

theorem wake_step {x : XState} {i : Nat} {k : Kind} {id : Nat} (hi : x.base.ths[i]? = some (.waiting k id true))
    (ha : id < x.base.sh.bound) : ∃ y, XStep x y ∧ y.base.ths[i]? = some (.holding k) ∧ y.base.sh = x.base.sh :=
  ⟨_, XStep.wakeOk x i k id hi ha, List.getElem?_set_self_of_some _ hi, rfl⟩

theorem notify_step {ps x} (h : XReach ps x) {i : Nat} {k : Kind} {id : Nat}
    (hi : x.base.ths[i]? = some (.waiting k id false)) (ha : id < x.base.sh.bound) :
    ∃ (m : Nat) (y : XState), x.base.ths[m]? = some Pc.notifying ∧ XStep x y ∧
      y.base.ths[i]? = some (.waiting k id true) ∧ y.base.sh = x.base.sh := by
  obtain ⟨m, hm⟩ := List.getElem?_of_mem (h.inv.live _ (mem_of_getElem? hi) k id rfl ha)
  have hmi : m ≠ i := fun e => by rw [e, hi] at hm; cases hm
  refine ⟨m, _, hm, XStep.notify x m hm, ?_, rfl⟩
  show ((x.base.ths.set m .idle).map wakeAll)[i]? = some (.waiting k id true)
  rw [List.getElem?_map, List.getElem?_set_ne hmi, hi]; rfl

/-- some inside thread can always move (or a pending notification can be delivered) -/
theorem inside_can_move {ps x} (h : XReach ps x) (hc : 0 < x.base.sh.count) : ∃ y, XStep x y := by
  rw [h.inv.count, List.countP_pos_iff] at hc
  obtain ⟨p, hp, hin⟩ := hc
  obtain ⟨j, hj⟩ := List.getElem?_of_mem hp
  cases p with
  | holding k =>
    by_cases hz : x.base.sh.count - 1 = 0
    · exact ⟨_, XStep.unlockLast x j k hj hz⟩
    · exact ⟨_, XStep.unlockMore x j k hj hz⟩
  | waiting k id n =>
    have hlt : id < x.base.sh.bound := by simpa [Pc.inside] using hin
    cases n with
    | true => exact (wake_step hj hlt).imp fun _ h => h.1
    | false => obtain ⟨_, y, _, hs, _⟩ := notify_step h hj hlt; exact ⟨y, hs⟩
  | idle => cases hin
  | notifying => cases hin

/-- **C02 (deadlock freedom)**: unless every thread has finished, some non-spurious step is enabled. -/
theorem C02_no_deadlock (ps : List (List Kind)) (x : XState) (h : XReach ps x) (hnd : ¬ allDone x) : ∃ y, XStep x y := by
  have I := h.inv
  obtain ⟨i, hilt, hni⟩ : ∃ i, i < x.base.ths.length ∧ ¬ doneAt x i :=
    Classical.byContradiction fun hcon => hnd fun i hi => Classical.byContradiction fun hnd' => hcon ⟨i, hi, hnd'⟩
  have hti : x.base.ths[i]? = some x.base.ths[i] := List.getElem?_eq_getElem hilt
  obtain ⟨pr, hpr⟩ := progs_at h hti
  -- unless thread `i` can move itself, it is inside or pending, and then somebody is inside
  have hpos : ∀ p, x.base.ths[i]? = some p → (∃ k, p.kind? = some k) → 0 < x.base.sh.count := by
    intro p hp hk
    refine Nat.pos_of_ne_zero fun h0 => ?_
    obtain ⟨_, hidc, hb⟩ := I.none_q (I.none_iff.2 h0)
    have hz := List.countP_eq_zero.1 (I.count ▸ h0) p (mem_of_getElem? hp)
    cases p with
    | waiting k id n =>
      have := I.ticket_lt (mem_of_getElem? hp) (by omega)
      omega
    | holding k => exact hz rfl
    | idle => obtain ⟨_, hk⟩ := hk; cases hk
    | notifying => obtain ⟨_, hk⟩ := hk; cases hk
  cases hpc : x.base.ths[i] with
  | idle =>
    rw [hpc] at hti
    cases pr with
    | nil => exact absurd ⟨hti, hpr⟩ hni
    | cons k rest =>
      cases hf : fast x.base.sh k with
      | true => exact ⟨_, XStep.callFast x i k rest hpr hti hf⟩
      | false => exact ⟨_, XStep.callSlow x i k rest hpr hti hf⟩
  | notifying => exact ⟨_, XStep.notify x i (hpc ▸ hti)⟩
  | holding k => exact inside_can_move h (hpos _ (hpc ▸ hti) ⟨k, rfl⟩)
  | waiting k id n => exact inside_can_move h (hpos _ (hpc ▸ hti) ⟨k, rfl⟩)

/-- **C02 (idle restored)**: when every thread has finished the Resource is back in its initial state. -/
theorem C02_idle_restored (ps : List (List Kind)) (x : XState) (h : XReach ps x) (hd : allDone x) :
    x.base.sh = ⟨[], .none, 0, 0, 0⟩ := by
  have I := h.inv
  have hc : x.base.sh.count = 0 := by
    rw [I.count, List.countP_eq_zero]
    intro p hp
    obtain ⟨j, hj⟩ := List.getElem?_of_mem hp
    have := (hd j (lt_len_of_get hj)).1
    rw [hj] at this; cases this; nofun
  have ha := I.none_iff.2 hc
  obtain ⟨hq, hi, hb⟩ := I.none_q ha
  cases hsh : x.base.sh with
  | mk q a c i b => rw [hsh] at hq hi hb hc ha; simp_all

/-- **C02 (an admitted thread wakes up on its own)**: needs only its own wake step and the pending notify of others. -/
theorem C02_admitted_wakes (ps : List (List Kind)) (x : XState) (h : XReach ps x) (i : Nat) (k id n)
    (hi : x.base.ths[i]? = some (.waiting k id n)) (ha : id < x.base.sh.bound) :
    (∃ y, XStep x y ∧ y.base.ths[i]? = some (.holding k)) ∨
    (∃ (m : Nat) (y : XState), x.base.ths[m]? = some Pc.notifying ∧ XStep x y ∧ y.base.ths[i]? = some (.waiting k id true) ∧
        y.base.sh = x.base.sh) := by
  cases n with
  | true => exact .inl ((wake_step hi ha).imp fun _ h => ⟨h.1, h.2.1⟩)
  | false => exact .inr (notify_step h hi ha)

/-! ### the measure: remaining work, and lexicographically below it the number of notified waiters -/

/-- remaining work of one thread: 4 units per outstanding lock/unlock pair plus what is left of the current one -/
def work : Pc → List Kind → Nat
  | .idle, pr => 4 * pr.length
  | .waiting _ _ _, pr => 4 * pr.length + 3
  | .holding _, pr => 4 * pr.length + 2
  | .notifying, pr => 4 * pr.length + 1

def isNotified : Pc → Bool
  | .waiting _ _ true => true
  | _ => false

def m1 (x : XState) : Nat := (List.zipWith work x.base.ths x.progs).sum
def measure (x : XState) : Nat := m1 x * (x.base.ths.length + 1) + x.base.ths.countP isNotified

theorem m1_call {x : XState} {i : Nat} {a : Pc} {pr : List Kind} (sh' : Sh) (a' : Pc) (pr' : List Kind)
    (hi : x.base.ths[i]? = some a) (hp : x.progs[i]? = some pr) :
    m1 ⟨⟨sh', x.base.ths.set i a'⟩, x.progs.set i pr'⟩ + work a pr = m1 x + work a' pr' :=
  List.sum_zipWith_set work a' pr' hi hp

theorem m1_move {x : XState} {i : Nat} {a : Pc} {pr : List Kind} (sh' : Sh) (a' : Pc)
    (hi : x.base.ths[i]? = some a) (hp : x.progs[i]? = some pr) :
    m1 ⟨⟨sh', x.base.ths.set i a'⟩, x.progs⟩ + work a pr = m1 x + work a' pr := by
  have := m1_call sh' a' pr hi hp
  rwa [List.set_self_of_some hp] at this

/-- less work left means a smaller measure: the notified waiters are fewer than `length + 1` -/
theorem measure_lt {x y : XState} {w w' : Nat} (hl : y.base.ths.length = x.base.ths.length)
    (hm : m1 y + w = m1 x + w') (hw : w' < w) : measure y < measure x := by
  have hc : y.base.ths.countP isNotified ≤ x.base.ths.length := hl ▸ List.countP_le_length
  have := Nat.mul_le_mul_right (x.base.ths.length + 1) (show m1 y + 1 ≤ m1 x by omega)
  rw [Nat.add_mul, Nat.one_mul] at this
  unfold measure; rw [hl]; omega

/-- **C02 (termination)**: every non-spurious step strictly decreases the measure, so every run is finite. -/
theorem C02_measure_decreases (ps : List (List Kind)) (x y : XState) (h : XReach ps x) (hs : XStep x y) :
    measure y < measure x := by
  cases hs with
  | callFast i k rest hp hi hf =>
    exact measure_lt (List.length_set ..) (m1_call _ (.holding k) rest hi hp) (by simp only [work, List.length_cons]; omega)
  | callSlow i k rest hp hi hf =>
    exact measure_lt (List.length_set ..) (m1_call _ (.waiting k x.base.sh.idc false) rest hi hp)
      (by simp only [work, List.length_cons]; omega)
  | wakeOk i k id hi hlt =>
    obtain ⟨pr, hpr⟩ := progs_at h hi
    exact measure_lt (List.length_set ..) (m1_move _ (.holding k) hi hpr) (by simp only [work]; omega)
  | wakeNo i k id hi hlt =>
    -- the work stays, one notification is used up
    obtain ⟨pr, hpr⟩ := progs_at h hi
    have hm : m1 ⟨⟨x.base.sh, x.base.ths.set i (.waiting k id false)⟩, x.progs⟩ = m1 x :=
      Nat.add_right_cancel (m := 4 * pr.length + 3) (m1_move _ (.waiting k id false) hi hpr)
    obtain ⟨r, h1, h2⟩ := List.set_perm hi (.waiting k id false)
    show m1 _ * ((x.base.ths.set i _).length + 1) + (x.base.ths.set i _).countP isNotified < m1 x * _ + x.base.ths.countP _
    rw [hm, List.length_set, h1.countP_eq, h2.countP_eq]
    simp [List.countP_cons, isNotified]
  | unlockLast i k hi hz =>
    obtain ⟨pr, hpr⟩ := progs_at h hi
    exact measure_lt (List.length_set ..) (m1_move _ .notifying hi hpr) (by simp only [work]; omega)
  | unlockMore i k hi hz =>
    obtain ⟨pr, hpr⟩ := progs_at h hi
    exact measure_lt (List.length_set ..) (m1_move _ .idle hi hpr) (by simp only [work]; omega)
  | notify i hi =>
    obtain ⟨pr, hpr⟩ := progs_at h hi
    refine measure_lt (w := work .notifying pr) (w' := work .idle pr) (by simp) ?_ (by simp only [work]; omega)
    show (List.zipWith work ((x.base.ths.set i .idle).map wakeAll) x.progs).sum + _ = _
    rw [List.zipWith_map_left, show (fun a b => work (wakeAll a) b) = work from funext fun a => by cases a <;> rfl]
    exact m1_move x.base.sh .idle hi hpr

end Rwp
