import Tulz.Proofs.Rwp.Inv
/-
  C03: FIFO fairness.  Ghost arrival stamps (`YState`), the invariant `SInv` relating stamps to tickets, and its
  consequence on executions (`C03_trace`).
-/
namespace Rwp

/-! ## Ghost arrival stamps (C03): `stamps[i]` is the value of a global clock at thread i's latest `lock*()` call -/

structure YState where
  base : State
  stamps : List Nat
  clock : Nat

inductive YStep : YState → YState → Prop
  | callFast (y : YState) (i k) (hi : y.base.ths[i]? = some .idle) (hf : fast y.base.sh k = true) :
      YStep y ⟨{ sh := { y.base.sh with act := k.act, count := y.base.sh.count + 1 }, ths := y.base.ths.set i (.holding k) },
               y.stamps.set i y.clock, y.clock + 1⟩
  | callSlow (y : YState) (i k) (hi : y.base.ths[i]? = some .idle) (hf : fast y.base.sh k = false) :
      YStep y ⟨{ sh := enqueue { y.base.sh with idc := y.base.sh.idc + 1 } k,
                 ths := y.base.ths.set i (.waiting k y.base.sh.idc false) }, y.stamps.set i y.clock, y.clock + 1⟩
  | wakeOk (y : YState) (i k id n) (hi : y.base.ths[i]? = some (.waiting k id n)) (h : id < y.base.sh.bound) :
      YStep y ⟨{ y.base with ths := y.base.ths.set i (.holding k) }, y.stamps, y.clock⟩
  | wakeNo (y : YState) (i k id n) (hi : y.base.ths[i]? = some (.waiting k id n)) (h : ¬ id < y.base.sh.bound) :
      YStep y ⟨{ y.base with ths := y.base.ths.set i (.waiting k id false) }, y.stamps, y.clock⟩
  | unlockLast (y : YState) (i k) (hi : y.base.ths[i]? = some (.holding k)) (h : y.base.sh.count - 1 = 0) :
      YStep y ⟨{ sh := select { y.base.sh with count := y.base.sh.count - 1 }, ths := y.base.ths.set i .notifying },
               y.stamps, y.clock⟩
  | unlockMore (y : YState) (i k) (hi : y.base.ths[i]? = some (.holding k)) (h : y.base.sh.count - 1 ≠ 0) :
      YStep y ⟨{ sh := { y.base.sh with count := y.base.sh.count - 1 }, ths := y.base.ths.set i .idle }, y.stamps, y.clock⟩
  | notify (y : YState) (i) (hi : y.base.ths[i]? = some .notifying) :
      YStep y ⟨{ y.base with ths := (y.base.ths.set i .idle).map wakeAll }, y.stamps, y.clock⟩

theorem YStep.base_step {x y : YState} (h : YStep x y) : Step x.base y.base := by
  cases h with
  | callFast i k hi hf => exact Step.callFast _ i k hi hf
  | callSlow i k hi hf => exact Step.callSlow _ i k hi hf
  | wakeOk i k id n hi h => exact Step.wakeOk _ i k id n hi h
  | wakeNo i k id n hi h => exact Step.wakeNo _ i k id n hi h
  | unlockLast i k hi h => exact Step.unlockLast _ i k hi h
  | unlockMore i k hi h => exact Step.unlockMore _ i k hi h
  | notify i hi => exact Step.notify _ i hi

def yinit (n : Nat) : YState := ⟨init n, List.replicate n 0, 0⟩

inductive YReach (n : Nat) : YState → Prop
  | init : YReach n (yinit n)
  | step {x y} : YReach n x → YStep x y → YReach n y

theorem YReach.base_reach {n y} (h : YReach n y) : Reach n y.base := by
  induction h with
  | init => exact Reach.init
  | step _ hs ih => exact Reach.step ih hs.base_step

def pendingAt (s : State) (j : Nat) (id : Nat) : Prop := ∃ k n, s.ths[j]? = some (.waiting k id n) ∧ s.sh.bound ≤ id
def insideAt (s : State) (i : Nat) : Prop := ∃ p, s.ths[i]? = some p ∧ Pc.inside s.sh.bound p = true
def activeAt (s : State) (i : Nat) : Prop := ∃ p, s.ths[i]? = some p ∧ (∃ k, p.kind? = some k)

structure SInv (y : YState) : Prop where
  /-- stamps of threads with an outstanding request are in the past -/
  past : ∀ i si, activeAt y.base i → y.stamps[i]? = some si → si < y.clock
  /-- pending requests: ticket order is arrival order -/
  order : ∀ i j idi idj si sj, pendingAt y.base i idi → pendingAt y.base j idj → idi < idj →
      y.stamps[i]? = some si → y.stamps[j]? = some sj → si < sj
  /-- whoever is inside arrived before everybody who is still pending -/
  before : ∀ i j idj si sj, insideAt y.base i → pendingAt y.base j idj →
      y.stamps[i]? = some si → y.stamps[j]? = some sj → si < sj

/-! ### how one step changes who is active, pending, inside -/

theorem pendingAt_iff {s : State} {j id : Nat} :
    pendingAt s j id ↔ ∃ p, s.ths[j]? = some p ∧ Pc.ticket? s.sh.bound p = some id :=
  ⟨fun ⟨k, n, hp, hb⟩ => ⟨_, hp, ticket?_eq_some.2 ⟨k, n, rfl, hb⟩⟩,
   fun ⟨_, hp, ht⟩ => by obtain ⟨k, n, rfl, hb⟩ := ticket?_eq_some.1 ht; exact ⟨k, n, hp, hb⟩⟩

/-- a thread that has `Q'` after cell `i` went from `a` to `x` had `Q` before, if `Q' x` is matched by `Q a` -/
theorem at_set {l : List Pc} {i j : Nat} {a x : Pc} {Q Q' : Pc → Prop} (hi : l[i]? = some a)
    (h : ∃ p, (l.set i x)[j]? = some p ∧ Q' p) (hx : Q' x → Q a) (hQ : ∀ p, Q' p → Q p) :
    ∃ p, l[j]? = some p ∧ Q p := by
  obtain ⟨p, hp, hq⟩ := h
  rcases List.getElem?_set_cases hp with ⟨rfl, rfl⟩ | ⟨_, hp'⟩
  · exact ⟨a, hi, hx hq⟩
  · exact ⟨p, hp', hQ p hq⟩

theorem at_map {l : List Pc} {j : Nat} {g : Pc → Pc} {Q Q' : Pc → Prop}
    (h : ∃ p, (l.map g)[j]? = some p ∧ Q' p) (hQ : ∀ p, Q' (g p) → Q p) : ∃ p, l[j]? = some p ∧ Q p := by
  obtain ⟨p', hp', hq⟩ := h
  rw [List.getElem?_map] at hp'
  cases hl : l[j]? with
  | none => rw [hl] at hp'; cases hp'
  | some p => rw [hl] at hp'; cases hp'; exact ⟨p, rfl, hQ p hq⟩

/-- the ghost part of a step: either stamps and clock stay and nobody becomes active, or an idle thread `i` calls
    and is stamped with the clock -/
theorem YStep.ghost {x y : YState} (h : YStep x y) :
    (y.stamps = x.stamps ∧ y.clock = x.clock ∧ ∀ b, activeAt y.base b → activeAt x.base b) ∨
    ∃ i, y.stamps = x.stamps.set i x.clock ∧ y.clock = x.clock + 1 ∧
      ∀ b, b ≠ i → activeAt y.base b → activeAt x.base b := by
  cases h with
  | callFast i k hi hf =>
    exact .inr ⟨i, rfl, rfl, fun b hne ⟨p, hp, hk⟩ => ⟨p, (List.getElem?_set_ne (Ne.symm hne)).symm.trans hp, hk⟩⟩
  | callSlow i k hi hf =>
    exact .inr ⟨i, rfl, rfl, fun b hne ⟨p, hp, hk⟩ => ⟨p, (List.getElem?_set_ne (Ne.symm hne)).symm.trans hp, hk⟩⟩
  | wakeOk i k id n hi hlt => exact .inl ⟨rfl, rfl, fun b h => at_set hi h (fun _ => ⟨k, rfl⟩) fun _ h => h⟩
  | wakeNo i k id n hi hlt => exact .inl ⟨rfl, rfl, fun b h => at_set hi h (fun _ => ⟨k, rfl⟩) fun _ h => h⟩
  | unlockLast i k hi hz => exact .inl ⟨rfl, rfl, fun b h => at_set hi h (fun _ => ⟨k, rfl⟩) fun _ h => h⟩
  | unlockMore i k hi hz => exact .inl ⟨rfl, rfl, fun b h => at_set hi h (fun _ => ⟨k, rfl⟩) fun _ h => h⟩
  | notify i hi =>
    exact .inl ⟨rfl, rfl, fun b h =>
      at_set hi (at_map h fun p (h : ∃ k, (wakeAll p).kind? = some k) => kind_wakeAll p ▸ h) (fun ⟨_, h⟩ => nomatch h)
        fun _ h => h⟩

theorem SInv.past_step {x y : YState} (S : SInv x) (h : YStep x y) :
    ∀ i si, activeAt y.base i → y.stamps[i]? = some si → si < y.clock := by
  intro i si ha hs
  rcases h.ghost with ⟨e1, e2, hact⟩ | ⟨i0, e1, e2, hact⟩
  · rw [e1] at hs; rw [e2]; exact S.past i si (hact i ha) hs
  · rw [e1] at hs; rw [e2]
    rcases List.getElem?_set_cases hs with ⟨_, rfl⟩ | ⟨hne, hs'⟩
    · exact Nat.lt_succ_self _
    · exact Nat.lt_succ_of_lt (S.past i si (hact i hne ha) hs')

/-- `SInv` survives a step that keeps the stamps, keeps pending requests pending, and admits only requests whose ticket
    is below every ticket that stays pending -/
theorem SInv.mono {x y : YState} (S : SInv x) (hs : y.stamps = x.stamps)
    (hpast : ∀ i si, activeAt y.base i → y.stamps[i]? = some si → si < y.clock)
    (hp : ∀ j id, pendingAt y.base j id → pendingAt x.base j id)
    (hi : ∀ i, insideAt y.base i → insideAt x.base i ∨
      ∃ id, pendingAt x.base i id ∧ ∀ j idj, pendingAt y.base j idj → id < idj) : SInv y := by
  refine ⟨hpast, ?_, ?_⟩
  · intro i j idi idj si sj hpi hpj
    rw [hs]; exact S.order i j idi idj si sj (hp i idi hpi) (hp j idj hpj)
  · intro i j idj si sj hin hpj
    rw [hs]
    rcases hi i hin with h | ⟨id, h, hlt⟩
    · exact S.before i j idj si sj h (hp j idj hpj)
    · exact S.order i j id idj si sj h (hp j idj hpj) (hlt j idj hpj)

theorem sinv_init (n) : SInv (yinit n) := by
  have hidle : ∀ i (p : Pc), (List.replicate n Pc.idle)[i]? = some p → p = .idle :=
    fun i p hp => List.eq_of_mem_replicate (mem_of_getElem? hp)
  exact ⟨fun i si ⟨p, hp, k, hk⟩ _ => (by cases hidle i p hp; cases hk),
    fun i j idi idj si sj ⟨k, n', hp, _⟩ => (nomatch hidle i _ hp),
    fun i j idj si sj _ ⟨k, n', hp, _⟩ => nomatch hidle j _ hp⟩

theorem sinv_step {x y : YState} (I : Inv x.base) (S : SInv x) (h : YStep x y) : SInv y := by
  have hpast := S.past_step h
  cases h with
  | callFast i0 k hi hf =>
    -- the queue is empty, so nobody is pending
    have hnp : ∀ j id, ¬ pendingAt ⟨{ x.base.sh with act := k.act, count := x.base.sh.count + 1 },
        x.base.ths.set i0 (.holding k)⟩ j id := by
      intro j id h
      obtain ⟨k', n', hp, hb⟩ := pendingAt_iff.2 (at_set hi (pendingAt_iff.1 h) nofun fun _ h => h)
      have := I.ticket_lt (mem_of_getElem? hp) hb
      have := ((fast_spec hf).1 ▸ I.qwf).eq_of_nil
      omega
    exact ⟨hpast, fun i j idi idj si sj hpi => absurd hpi (hnp i idi), fun i j idj si sj _ hpj => absurd hpj (hnp j idj)⟩
  | callSlow i0 k hi hf =>
    have hle := I.qwf.le
    -- the newcomer holds the largest ticket and the latest stamp; everybody else is as before
    have hpend : ∀ j id, pendingAt ⟨enqueue { x.base.sh with idc := x.base.sh.idc + 1 } k,
        x.base.ths.set i0 (.waiting k x.base.sh.idc false)⟩ j id →
        (j = i0 ∧ id = x.base.sh.idc) ∨ (j ≠ i0 ∧ pendingAt x.base j id ∧ id < x.base.sh.idc) := by
      intro j id ⟨k', n', hp, hb⟩
      rw [enqueue_bound] at hb
      rcases List.getElem?_set_cases hp with ⟨e, e2⟩ | ⟨hne, hp'⟩
      · cases e2; exact .inl ⟨e, rfl⟩
      · exact .inr ⟨hne, ⟨k', n', hp', hb⟩, I.ticket_lt (mem_of_getElem? hp') hb⟩
    have hins : ∀ i, insideAt ⟨enqueue { x.base.sh with idc := x.base.sh.idc + 1 } k,
        x.base.ths.set i0 (.waiting k x.base.sh.idc false)⟩ i → i ≠ i0 ∧ insideAt x.base i := by
      intro i ⟨p, hp, hin⟩
      rw [enqueue_bound] at hin
      rcases List.getElem?_set_cases hp with ⟨_, rfl⟩ | ⟨hne, hp'⟩
      · simp [Pc.inside] at hin; omega
      · exact ⟨hne, p, hp', hin⟩
    have hnew : ∀ j sj, (x.stamps.set i0 x.clock)[j]? = some sj → (j = i0 → sj = x.clock) ∧ (j ≠ i0 → x.stamps[j]? = some sj) :=
      fun j sj h => (List.getElem?_set_cases h).elim (fun h => ⟨fun _ => h.2, fun hne => absurd h.1 hne⟩)
        fun h => ⟨fun e => absurd e h.1, fun _ => h.2⟩
    refine ⟨hpast, ?_, ?_⟩
    · intro i j idi idj si sj hpi hpj hlt hsi hsj
      rcases hpend i idi hpi with ⟨_, _⟩ | ⟨hnei, hpi', _⟩
      · rcases hpend j idj hpj with ⟨_, _⟩ | ⟨_, _, _⟩ <;> omega
      · have hsi' := (hnew i si hsi).2 hnei
        rcases hpend j idj hpj with ⟨ej, _⟩ | ⟨hnej, hpj', _⟩
        · obtain ⟨k', n', hp, _⟩ := hpi'
          exact (hnew j sj hsj).1 ej ▸ S.past i si ⟨_, hp, k', rfl⟩ hsi'
        · exact S.order i j idi idj si sj hpi' hpj' hlt hsi' ((hnew j sj hsj).2 hnej)
    · intro i j idj si sj hin hpj hsi hsj
      obtain ⟨hnei, p, hp, hpin⟩ := hins i hin
      have hsi' := (hnew i si hsi).2 hnei
      rcases hpend j idj hpj with ⟨ej, _⟩ | ⟨hnej, hpj', _⟩
      · exact (hnew j sj hsj).1 ej ▸ S.past i si ⟨p, hp, inside_kind_some hpin⟩ hsi'
      · exact S.before i j idj si sj ⟨p, hp, hpin⟩ hpj' hsi' ((hnew j sj hsj).2 hnej)
  | wakeOk i0 k id n hi hlt =>
    exact S.mono rfl hpast (fun j idj h => pendingAt_iff.2 (at_set hi (pendingAt_iff.1 h) nofun fun _ h => h))
      fun i h => .inl (at_set hi h (fun _ => by simp [Pc.inside, hlt]) fun _ h => h)
  | wakeNo i0 k id n hi hnlt =>
    exact S.mono rfl hpast
      (fun j idj h => pendingAt_iff.2 (at_set hi (pendingAt_iff.1 h) (fun h => by simpa [Pc.ticket?] using h) fun _ h => h))
      fun i h => .inl (at_set hi h (fun h => by simp [Pc.inside, hnlt] at h) fun _ h => h)
  | unlockMore i0 k hi hnz =>
    exact S.mono rfl hpast (fun j idj h => pendingAt_iff.2 (at_set hi (pendingAt_iff.1 h) nofun fun _ h => h))
      fun i h => .inl (at_set hi h nofun fun _ h => h)
  | notify i0 hi =>
    exact S.mono rfl hpast
      (fun j idj h => pendingAt_iff.2 (at_set hi (at_map (pendingAt_iff.1 h) fun p h => ticket_wakeAll _ p ▸ h) nofun
        fun _ h => h))
      fun i h => .inl (at_set hi (at_map h fun p h => inside_wakeAll _ p ▸ h) nofun fun _ h => h)
  | unlockLast i0 k hi hz =>
    -- whatever the new bound is: before the step only the leaving holder was inside, so every parked thread was
    -- pending, and those admitted now have tickets below the new bound
    have sole : ∀ {i p}, x.base.ths[i]? = some p → Pc.inside x.base.sh.bound p = true → i = i0 := I.only_inside hi hz
    refine S.mono rfl hpast (fun j id ⟨k', n', hp, _⟩ => ?_) fun i ⟨p, hp, hin⟩ => ?_
    · rcases List.getElem?_set_cases hp with ⟨_, e⟩ | ⟨hne, hp'⟩
      · cases e
      · exact ⟨k', n', hp', Nat.le_of_not_lt fun hlt => hne (sole hp' (by simp [Pc.inside, hlt]))⟩
    · rcases List.getElem?_set_cases hp with ⟨_, rfl⟩ | ⟨hne, hp'⟩
      · cases hin
      · cases p with
        | holding k' => exact absurd (sole hp' rfl) hne
        | waiting k' id n' =>
          have hb : x.base.sh.bound ≤ id := Nat.le_of_not_lt fun hlt => hne (sole hp' (by simp [Pc.inside, hlt]))
          exact .inr ⟨id, ⟨k', n', hp', hb⟩, fun j idj ⟨_, _, _, hbj⟩ =>
            Nat.lt_of_lt_of_le (by simpa [Pc.inside] using hin) hbj⟩
        | idle => cases hin
        | notifying => cases hin

theorem yreach_sinv {n y} (h : YReach n y) : SInv y := by
  induction h with
  | init => exact sinv_init n
  | step hr hs ih => exact sinv_step (reach_inv hr.base_reach) ih hs

/-- **C03**: a request that is still waiting is never overtaken — whoever is inside the lock (holding it, or admitted and
    about to wake up) issued its request before every request that is still pending. -/
theorem C03_no_overtake (n : Nat) (y : YState) (h : YReach n y) (a b : Nat) (ida sa sb : Nat)
    (ha : pendingAt y.base a ida) (hb : insideAt y.base b) (hsa : y.stamps[a]? = some sa) (hsb : y.stamps[b]? = some sb) :
    sb < sa :=
  (yreach_sinv h).before b a ida sb sa hb ha hsb hsa

/-! ## C03 at the level of executions: a request issued after another request was already parked is not
    granted while that earlier request is still waiting -/

/-- a finite execution fragment of the system with arrival stamps -/
inductive YRun : YState → YState → Prop
  | refl (y) : YRun y y
  | step {x y z} : YStep x y → YRun y z → YRun x z

theorem YRun.reach {n x y} (h : YReach n x) (r : YRun x y) : YReach n y := by
  induction r with
  | refl => exact h
  | step hs _ ih => exact ih (YReach.step h hs)

theorem YReach.stamps_len {n y} (h : YReach n y) : y.stamps.length = y.base.ths.length := by
  induction h with
  | init => show (List.replicate n 0).length = (List.replicate n Pc.idle).length; simp
  | step _ hs ih => cases hs <;> simp [List.length_set, List.length_map, ih]

/-- every request that thread `b` has outstanding was issued at or after clock value `c0` -/
def Fresh (c0 b : Nat) (y : YState) : Prop :=
  c0 ≤ y.clock ∧ ∀ sb, activeAt y.base b → y.stamps[b]? = some sb → c0 ≤ sb

theorem fresh_step {c0 b : Nat} {x y : YState} (F : Fresh c0 b x) (h : YStep x y) : Fresh c0 b y := by
  obtain ⟨hc, hs⟩ := F
  rcases h.ghost with ⟨e1, e2, hact⟩ | ⟨i, e1, e2, hact⟩
  · exact ⟨e2 ▸ hc, fun sb ha hsb => hs sb (hact b ha) (e1 ▸ hsb)⟩
  · refine ⟨by omega, fun sb ha hsb => ?_⟩
    rw [e1] at hsb
    rcases List.getElem?_set_cases hsb with ⟨_, rfl⟩ | ⟨hne, hsb'⟩
    · exact hc
    · exact hs sb (hact b hne ha) hsb'

theorem fresh_run {c0 b : Nat} {x y : YState} (F : Fresh c0 b x) (r : YRun x y) : Fresh c0 b y := by
  induction r with
  | refl => exact F
  | step hs _ ih => exact ih (fresh_step F hs)

/-- **C03 on executions**: take any reachable state `y1` in which request `a` is parked and not yet admitted while
    thread `b` has no request outstanding, and any continuation to a state `y2` in which `b` is inside the lock
    (so `b`'s request was issued after `a` was already waiting, and has been granted). Then `a`'s request — identified
    by its arrival stamp — is no longer pending in `y2`: it was granted no later than `b`'s. -/
theorem C03_trace (n : Nat) (y1 y2 : YState) (h1 : YReach n y1) (r : YRun y1 y2) (a b ida ida' sa : Nat)
    (ha : pendingAt y1.base a ida) (hsa : y1.stamps[a]? = some sa)
    (hb : y1.base.ths[b]? = some .idle)
    (hin : insideAt y2.base b) :
    ¬ (pendingAt y2.base a ida' ∧ y2.stamps[a]? = some sa) := by
  intro ⟨hpa, hsa2⟩
  have h2 := r.reach h1
  -- a's stamp lies in the past of y1
  have hpast : sa < y1.clock := by
    obtain ⟨k, nn, hw, _⟩ := ha
    exact (yreach_sinv h1).past a sa ⟨_, hw, k, rfl⟩ hsa
  -- b's outstanding request at y2 was issued at or after clock(y1)
  have F2 : Fresh y1.clock b y2 :=
    fresh_run ⟨Nat.le_refl _, fun sb ⟨p, hp, k, hk⟩ _ => by rw [hb] at hp; cases hp; cases hk⟩ r
  obtain ⟨p, hp, hpin⟩ := hin
  have hlen : b < y2.stamps.length := h2.stamps_len ▸ lt_len_of_get hp
  have hsb : y2.stamps[b]? = some y2.stamps[b] := List.getElem?_eq_getElem hlen
  have hfresh := F2.2 _ ⟨p, hp, inside_kind_some hpin⟩ hsb
  have hover := C03_no_overtake n y2 h2 a b ida' sa _ hpa ⟨p, hp, hpin⟩ hsa2 hsb
  omega

end Rwp
