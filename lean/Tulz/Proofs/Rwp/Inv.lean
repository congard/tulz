import Tulz.Proofs.Rwp.Queue
import Tulz.Proofs.ListSet
/-
  The invariant `Inv` of the lock and its preservation by every step.  `Inv` does not depend on the order of the thread
  list (`Inv.of_perm`) and a step rewrites one cell of it, so each step is proved in the form
  `Inv ⟨sh, a :: r⟩ → Inv ⟨sh', x :: r⟩` (`Inv.set`), where core's `cons` lemmas do the list work.
-/
namespace Rwp

structure Inv (s : State) : Prop where
  qwf : QWF s.sh.bound s.sh.idc s.sh.queue
  tickets : (s.ths.filterMap (Pc.ticket? s.sh.bound)).Perm (List.range' s.sh.bound (s.sh.idc - s.sh.bound))
  kindsQ : ∀ p ∈ s.ths, ∀ k id n, p = .waiting k id n → s.sh.bound ≤ id → kindAt s.sh.queue id = some k
  count : s.sh.count = s.ths.countP (Pc.inside s.sh.bound)
  kinds : ∀ p ∈ s.ths, Pc.inside s.sh.bound p = true → ∀ k, p.kind? = some k → k.act = s.sh.act
  wr : s.sh.act = .write → s.sh.count ≤ 1
  none_iff : s.sh.act = .none ↔ s.sh.count = 0
  none_q : s.sh.act = .none → s.sh.queue = [] ∧ s.sh.idc = 0 ∧ s.sh.bound = 0
  live : ∀ p ∈ s.ths, ∀ k id, p = .waiting k id false → id < s.sh.bound → Pc.notifying ∈ s.ths

/-! ### the small definitions -/

theorem mem_of_getElem? {α} {l : List α} {i : Nat} {a : α} (h : l[i]? = some a) : a ∈ l :=
  List.mem_of_getElem? h

theorem lt_len_of_get {α} {l : List α} {i : Nat} {a : α} (h : l[i]? = some a) : i < l.length :=
  (List.getElem?_eq_some_iff.1 h).1

theorem Kind.act_ne_none (k : Kind) : k.act ≠ .none := by cases k <;> nofun

theorem Kind.act_inj {k k' : Kind} (h : k.act = k'.act) : k = k' := by
  cases k <;> cases k' <;> first | rfl | cases h

/-- fast path implies empty queue and compatible active op -/
theorem fast_spec {s : Sh} {k : Kind} (h : fast s k = true) :
    s.queue = [] ∧ (s.act = .none ∨ (s.act = .read ∧ k = .read)) := by
  unfold fast at h
  simp only [Bool.and_eq_true, Bool.or_eq_true, beq_iff_eq, List.isEmpty_iff] at h
  exact h

theorem not_fast_act {s : Sh} {k : Kind} (h : fast s k = false) (hq : s.act = .none → s.queue = []) : s.act ≠ .none := by
  intro h0
  simp [fast, hq h0, h0] at h

theorem ticket?_eq_some {b id : Nat} {p : Pc} : Pc.ticket? b p = some id ↔ ∃ k n, p = .waiting k id n ∧ b ≤ id := by
  cases p with
  | waiting k id' n =>
    simp only [Pc.ticket?]
    constructor
    · intro h; split at h <;> cases h; exact ⟨k, n, rfl, ‹_›⟩
    · rintro ⟨_, _, e, hb⟩; cases e; exact if_pos hb
  | _ => exact ⟨nofun, fun ⟨_, _, e, _⟩ => nomatch e⟩

theorem inside_kind_some {b : Nat} {p : Pc} (h : Pc.inside b p = true) : ∃ k, p.kind? = some k := by
  cases p <;> first | exact ⟨_, rfl⟩ | cases h

@[simp] theorem inside_wakeAll (b : Nat) (p : Pc) : Pc.inside b (wakeAll p) = Pc.inside b p := by cases p <;> rfl
@[simp] theorem ticket_wakeAll (b : Nat) (p : Pc) : Pc.ticket? b (wakeAll p) = Pc.ticket? b p := by cases p <;> rfl
@[simp] theorem kind_wakeAll (p : Pc) : (wakeAll p).kind? = p.kind? := by cases p <;> rfl

/-! ### admission: raising the bound from `lo` to `ub` -/

theorem ticket?_raise {lo ub : Nat} (h : lo ≤ ub) (p : Pc) :
    Pc.ticket? ub p = (Pc.ticket? lo p).filter (fun x => decide (ub ≤ x)) := by
  cases p with
  | waiting k id n =>
    simp only [Pc.ticket?]
    by_cases h1 : ub ≤ id
    · rw [if_pos h1, if_pos (Nat.le_trans h h1), Option.filter_some, if_pos (decide_eq_true h1)]
    · rw [if_neg h1]; split
      · rw [Option.filter_some, if_neg (by simpa using h1)]
      · rfl
  | _ => rfl

/-- the tickets from `ub` on stay pending -/
theorem tickets_raise {lo ub idc : Nat} {l : List Pc} (h1 : lo ≤ ub) (h2 : ub ≤ idc)
    (ht : (l.filterMap (Pc.ticket? lo)).Perm (List.range' lo (idc - lo))) :
    (l.filterMap (Pc.ticket? ub)).Perm (List.range' ub (idc - ub)) := by
  have hr : (List.range' lo (idc - lo)).filter (fun x => decide (ub ≤ x)) = List.range' ub (idc - ub) := by
    rw [show idc - lo = (ub - lo) + (idc - ub) by omega, ← List.range'_append_1, show lo + (ub - lo) = ub by omega,
      List.filter_append, List.filter_eq_nil_iff.2, List.filter_eq_self.2, List.nil_append]
    · exact fun a ha => decide_eq_true (List.mem_range'_1.1 ha).1
    · intro a ha h
      have := (List.mem_range'_1.1 ha).2
      have := of_decide_eq_true h
      omega
  rw [funext (ticket?_raise h1), ← List.filter_filterMap, ← hr]
  exact ht.filter _

/-- a thread with a request is inside or holds a pending ticket, whatever the bound -/
theorem inside_add_pending (x : Nat) (l : List Pc) :
    l.countP (Pc.inside x) + (l.filterMap (Pc.ticket? x)).length = l.countP (fun p => p.kind?.isSome) := by
  induction l with
  | nil => rfl
  | cons p l ih =>
    rw [List.countP_cons, List.countP_cons, List.filterMap_cons, ← ih]
    cases p with
    | waiting k id n =>
      simp only [Pc.inside, Pc.ticket?, Pc.kind?]
      by_cases h : id < x
      · simp [h, Nat.not_le.2 h]; omega
      · simp [h, Nat.le_of_not_lt h]; omega
    | holding k => simp [Pc.inside, Pc.ticket?, Pc.kind?]; omega
    | _ => simp [Pc.inside, Pc.ticket?, Pc.kind?]

/-- the admission lemma: when the bound goes from `lo` to `ub` exactly `ub - lo` threads become admitted; the requests are
    conserved, so this is what the tickets lose -/
theorem count_raise {lo ub idc : Nat} {l : List Pc} (h1 : lo ≤ ub) (h2 : ub ≤ idc)
    (ht : (l.filterMap (Pc.ticket? lo)).Perm (List.range' lo (idc - lo))) :
    l.countP (Pc.inside ub) = l.countP (Pc.inside lo) + (ub - lo) := by
  have e1 := inside_add_pending lo l
  have e2 := inside_add_pending ub l
  rw [ht.length_eq, List.length_range'] at e1
  rw [(tickets_raise h1 h2 ht).length_eq, List.length_range'] at e2
  omega

/-! ### order independence, the idle state, admission of the head entry -/

theorem Inv.of_perm {sh : Sh} {l l' : List Pc} (h : l.Perm l') (I : Inv ⟨sh, l⟩) : Inv ⟨sh, l'⟩ :=
  ⟨I.qwf, (h.symm.filterMap _).trans I.tickets, fun p hp => I.kindsQ p (h.mem_iff.2 hp),
    I.count.trans (h.countP_eq _), fun p hp => I.kinds p (h.mem_iff.2 hp), I.wr, I.none_iff, I.none_q,
    fun p hp k id e hl => h.mem_iff.1 (I.live p (h.mem_iff.2 hp) k id e hl)⟩

/-- with no request outstanding the Resource is idle -/
theorem inv_idle {l : List Pc} (h : ∀ p ∈ l, p.kind? = none) : Inv ⟨⟨[], .none, 0, 0, 0⟩, l⟩ := by
  have hw : ∀ p ∈ l, ∀ k id n, p ≠ .waiting k id n := fun p hp k id n e => by cases e; cases h _ hp
  have hi : ∀ p ∈ l, Pc.inside 0 p = false := fun p hp => by cases p <;> first | rfl | cases h _ hp
  have ht : l.filterMap (Pc.ticket? 0) = [] :=
    List.filterMap_eq_nil_iff.2 fun p hp => by cases p <;> first | rfl | cases h _ hp
  exact ⟨QWF.nil 0, ht ▸ .refl _, fun p hp k id n e => absurd e (hw p hp k id n),
    (List.countP_eq_zero.2 fun p hp => by simp [hi p hp]).symm,
    fun p hp hin => absurd hin (by simp [hi p hp]), nofun, ⟨fun _ => rfl, fun _ => rfl⟩,
    fun _ => ⟨rfl, rfl, rfl⟩, fun p hp k id e => absurd e (hw p hp k id false)⟩

theorem inv_init (n : Nat) : Inv (init n) :=
  inv_idle fun _ hp => List.eq_of_mem_replicate hp ▸ rfl

/-- `select` on a non-empty queue: with nobody inside, the head entry is admitted as a whole -/
theorem inv_admit {b idc : Nat} {e : QE} {q : List QE} {l : List Pc} (hq : QWF b idc (e :: q))
    (ht : (l.filterMap (Pc.ticket? b)).Perm (List.range' b (idc - b)))
    (hk : ∀ p ∈ l, ∀ k id n, p = .waiting k id n → b ≤ id → kindAt (e :: q) id = some k)
    (hz : l.countP (Pc.inside b) = 0) (hn : .notifying ∈ l) :
    Inv ⟨⟨q, e.kind.act, e.ub - b, idc, e.ub⟩, l⟩ := by
  obtain ⟨h1, h2, h3, h4⟩ := hq.head_ub
  refine ⟨h3, tickets_raise (Nat.le_of_lt h1) h2 ht, ?_,
    ((count_raise (Nat.le_of_lt h1) h2 ht).trans (hz ▸ Nat.zero_add _)).symm, ?_, ?_, ?_, ?_, fun _ _ _ _ _ _ => hn⟩
  · intro p hp k id n hpe (hb : e.ub ≤ id)
    have := hk p hp k id n hpe (by omega)
    rwa [kindAt, if_neg (by omega)] at this
  · -- whoever is inside now was pending with a ticket below `e.ub`, which the head entry covers
    intro p hp (hin : Pc.inside e.ub p = true) k hk'
    have hno := List.countP_eq_zero.1 hz p hp
    cases p with
    | waiting k' id n =>
      simp only [Pc.inside, decide_eq_true_eq] at hin hno
      have := hk _ hp k' id n rfl (by omega)
      rw [kindAt, if_pos hin] at this
      cases hk'; cases this; rfl
    | holding k' => simp [Pc.inside] at hno
    | idle => cases hk'
    | notifying => cases hk'
  · intro (hw : e.kind.act = .write)
    show e.ub - b ≤ 1
    have := h4 (Kind.act_inj hw); omega
  · exact ⟨fun h => absurd h e.kind.act_ne_none, fun (h : e.ub - b = 0) => by omega⟩
  · exact fun h => absurd h e.kind.act_ne_none

/-! ### the seven steps, on a thread list `a :: r` whose head is the thread that moves -/

/-- the clauses that speak of the threads pass from `a :: r` to `x :: r`: the two aggregates when `x` counts as `a` did,
    the three per-thread ones when they hold of `x` -/
theorem Inv.tickets_cons {sh : Sh} {a x : Pc} {r : List Pc} (J : Inv ⟨sh, a :: r⟩)
    (hx : Pc.ticket? sh.bound x = Pc.ticket? sh.bound a) :
    ((x :: r).filterMap (Pc.ticket? sh.bound)).Perm (List.range' sh.bound (sh.idc - sh.bound)) := by
  rw [List.filterMap_cons, hx, ← List.filterMap_cons]; exact J.tickets

theorem Inv.count_cons {sh : Sh} {a x : Pc} {r : List Pc} (J : Inv ⟨sh, a :: r⟩)
    (hx : Pc.inside sh.bound x = Pc.inside sh.bound a) : sh.count = (x :: r).countP (Pc.inside sh.bound) := by
  rw [List.countP_cons, hx, ← List.countP_cons]; exact J.count

theorem Inv.kindsQ_cons {sh : Sh} {a x : Pc} {r : List Pc} (J : Inv ⟨sh, a :: r⟩)
    (hx : ∀ k id n, x = .waiting k id n → sh.bound ≤ id → kindAt sh.queue id = some k) :
    ∀ p ∈ x :: r, ∀ k id n, p = .waiting k id n → sh.bound ≤ id → kindAt sh.queue id = some k :=
  List.forall_mem_cons.2 ⟨hx, fun p hp => J.kindsQ p (.tail _ hp)⟩

theorem Inv.kinds_cons {sh : Sh} {a x : Pc} {r : List Pc} (J : Inv ⟨sh, a :: r⟩)
    (hx : Pc.inside sh.bound x = true → ∀ k, x.kind? = some k → k.act = sh.act) :
    ∀ p ∈ x :: r, Pc.inside sh.bound p = true → ∀ k, p.kind? = some k → k.act = sh.act :=
  List.forall_mem_cons.2 ⟨hx, fun p hp => J.kinds p (.tail _ hp)⟩

theorem Inv.live_cons {sh : Sh} {a x : Pc} {r : List Pc} (J : Inv ⟨sh, a :: r⟩) (ha : a ≠ .notifying)
    (hx : ∀ k id, x = .waiting k id false → ¬ id < sh.bound) :
    ∀ p ∈ x :: r, ∀ k id, p = .waiting k id false → id < sh.bound → Pc.notifying ∈ x :: r :=
  List.forall_mem_cons.2 ⟨fun k id e hl => absurd hl (hx k id e), fun p hp k id e hl =>
    .tail _ ((List.mem_cons.1 (J.live p (.tail _ hp) k id e hl)).resolve_left fun e' => ha e'.symm)⟩

/-- a pending ticket is below the ticket counter -/
theorem Inv.ticket_lt {s : State} (I : Inv s) {k id n} (hp : .waiting k id n ∈ s.ths) (hb : s.sh.bound ≤ id) :
    id < s.sh.idc := by
  have := List.mem_range'_1.1 (I.tickets.mem_iff.1 (List.mem_filterMap.2 ⟨_, hp, ticket?_eq_some.2 ⟨k, n, rfl, hb⟩⟩))
  omega

theorem Inv.callFast {sh : Sh} {k : Kind} {r : List Pc} (J : Inv ⟨sh, .idle :: r⟩) (hf : fast sh k = true) :
    Inv ⟨{ sh with act := k.act, count := sh.count + 1 }, .holding k :: r⟩ := by
  obtain ⟨_, hact⟩ := fast_spec hf
  have hc : sh.count = r.countP (Pc.inside sh.bound) := by simpa [List.countP_cons, Pc.inside] using J.count
  refine ⟨J.qwf, J.tickets_cons rfl, J.kindsQ_cons fun _ _ _ => nofun, ?_,
    List.forall_mem_cons.2 ⟨fun _ k' hk' => by cases hk'; rfl, fun p hp hin k' hk' => ?_⟩, fun hw => ?_,
    ⟨fun h => absurd h k.act_ne_none, nofun⟩, fun h => absurd h k.act_ne_none, J.live_cons nofun fun _ _ => nofun⟩
  · show sh.count + 1 = _
    simp [List.countP_cons, Pc.inside, hc]
  · -- somebody else is inside: the lock is in read mode and so is the newcomer
    show k'.act = k.act
    rcases hact with h0 | ⟨h1, rfl⟩
    · exact absurd hin (List.countP_eq_zero.1 (hc ▸ J.none_iff.1 h0) p hp)
    · rw [J.kinds p (.tail _ hp) hin k' hk', h1]; rfl
  · show sh.count + 1 ≤ 1
    rcases hact with h0 | ⟨_, rfl⟩
    · have : sh.count = 0 := J.none_iff.1 h0
      omega
    · cases hw

theorem Inv.callSlow {sh : Sh} {k : Kind} {r : List Pc} (J : Inv ⟨sh, .idle :: r⟩) (hf : fast sh k = false) :
    Inv ⟨enqueue { sh with idc := sh.idc + 1 } k, .waiting k sh.idc false :: r⟩ := by
  have hle : sh.bound ≤ sh.idc := J.qwf.le
  have hnin : Pc.inside sh.bound (.waiting k sh.idc false) = false := by simp [Pc.inside]; omega
  have hact : sh.act ≠ .none := not_fast_act hf fun h => (J.none_q h).1
  rw [enqueue_eq]
  show Inv ⟨⟨enq (sh.idc + 1) k sh.queue, sh.act, sh.count, sh.idc + 1, sh.bound⟩, _⟩
  refine ⟨qwf_enq J.qwf k, ?_, List.forall_mem_cons.2 ⟨?_, fun p hp k' id n e hb => ?_⟩, J.count_cons hnin,
    J.kinds_cons fun h => absurd h (by simp [hnin]), J.wr, J.none_iff, fun h => absurd h hact,
    J.live_cons nofun fun _ _ e => ?_⟩
  · show ((Pc.waiting k sh.idc false :: r).filterMap (Pc.ticket? sh.bound)).Perm
      (List.range' sh.bound (sh.idc + 1 - sh.bound))
    have ht : (r.filterMap (Pc.ticket? sh.bound)).Perm (List.range' sh.bound (sh.idc - sh.bound)) := by
      simpa [List.filterMap_cons, Pc.ticket?] using J.tickets
    rw [List.filterMap_cons, ticket?_eq_some.2 ⟨k, false, rfl, hle⟩,
      show sh.idc + 1 - sh.bound = (sh.idc - sh.bound) + 1 by omega, List.range'_concat,
      show sh.bound + 1 * (sh.idc - sh.bound) = sh.idc by omega]
    exact (ht.cons _).trans (List.perm_append_singleton _ _).symm
  · intro k' id n e (hb : sh.bound ≤ id)
    cases e
    exact (kindAt_enq J.qwf k _ hb).trans (if_pos rfl)
  · cases e
    have := J.ticket_lt (.tail _ hp) hb
    exact (kindAt_enq J.qwf k _ hb).trans ((if_neg (by omega)).trans (J.kindsQ _ (.tail _ hp) k' id n rfl hb))
  · cases e; omega

theorem Inv.wakeOk {sh : Sh} {k : Kind} {id : Nat} {n : Bool} {r : List Pc} (J : Inv ⟨sh, .waiting k id n :: r⟩)
    (h : id < sh.bound) : Inv ⟨sh, .holding k :: r⟩ := by
  have hin : Pc.inside sh.bound (.waiting k id n) = true := by simp [Pc.inside, h]
  exact ⟨J.qwf, J.tickets_cons (if_neg (Nat.not_le.2 h)).symm, J.kindsQ_cons fun _ _ _ => nofun, J.count_cons hin.symm,
    J.kinds_cons fun _ => J.kinds (.waiting k id n) (.head _) hin, J.wr, J.none_iff, J.none_q,
    J.live_cons nofun fun _ _ => nofun⟩

theorem Inv.wakeNo {sh : Sh} {k : Kind} {id : Nat} {n : Bool} {r : List Pc} (J : Inv ⟨sh, .waiting k id n :: r⟩)
    (h : ¬ id < sh.bound) : Inv ⟨sh, .waiting k id false :: r⟩ := by
  refine ⟨J.qwf, J.tickets_cons rfl, J.kindsQ_cons fun _ _ _ e => ?_, J.count_cons rfl,
    J.kinds_cons fun hin => absurd hin (by simp [Pc.inside, h]), J.wr, J.none_iff, J.none_q,
    J.live_cons nofun fun _ _ e => ?_⟩
  · cases e; exact J.kindsQ _ (.head _) k id n rfl
  · cases e; exact h

theorem Inv.unlockLast {sh : Sh} {k : Kind} {r : List Pc} (J : Inv ⟨sh, .holding k :: r⟩) (h : sh.count - 1 = 0) :
    Inv ⟨select { sh with count := sh.count - 1 }, .notifying :: r⟩ := by
  obtain ⟨q, act, cnt, idc, b⟩ := sh
  replace h : cnt - 1 = 0 := h
  -- the holder that leaves was the only thread inside
  have hz : (Pc.notifying :: r).countP (Pc.inside b) = 0 := by
    have := J.count; simp [List.countP_cons, Pc.inside, -List.countP_eq_zero] at this ⊢; omega
  have ht : ((Pc.notifying :: r).filterMap (Pc.ticket? b)).Perm (List.range' b (idc - b)) := J.tickets_cons rfl
  have hk : ∀ p ∈ Pc.notifying :: r, ∀ k id n, p = .waiting k id n → b ≤ id → kindAt q id = some k :=
    J.kindsQ_cons fun _ _ _ => nofun
  cases q with
  | nil =>
    -- `bound = idc`, so no ticket is pending: nobody waits, nobody holds
    show Inv ⟨⟨[], .none, cnt - 1, 0, 0⟩, _⟩
    rw [h]
    have hbi : b = idc := J.qwf.eq_of_nil
    refine inv_idle fun p hp => ?_
    have hno := List.countP_eq_zero.1 hz p hp
    cases p with
    | waiting k' id n =>
      have : id ∈ (Pc.notifying :: r).filterMap (Pc.ticket? b) :=
        List.mem_filterMap.2 ⟨_, hp, by simpa [Pc.ticket?, Pc.inside] using hno⟩
      have := List.mem_range'_1.1 (ht.mem_iff.1 this)
      omega
    | holding k' => simp [Pc.inside] at hno
    | idle => rfl
    | notifying => rfl
  | cons e q => exact inv_admit J.qwf ht hk hz (List.mem_cons_self ..)

theorem Inv.unlockMore {sh : Sh} {k : Kind} {r : List Pc} (J : Inv ⟨sh, .holding k :: r⟩) (h : sh.count - 1 ≠ 0) :
    Inv ⟨{ sh with count := sh.count - 1 }, .idle :: r⟩ := by
  refine ⟨J.qwf, J.tickets_cons rfl, J.kindsQ_cons fun _ _ _ => nofun, ?_, J.kinds_cons nofun, fun hw => ?_,
    ⟨fun h0 => ?_, fun h0 => absurd h0 h⟩, J.none_q, J.live_cons nofun fun _ _ => nofun⟩
  · show sh.count - 1 = _
    have := J.count
    simp [List.countP_cons, Pc.inside] at this ⊢; omega
  · show sh.count - 1 ≤ 1
    have : sh.count ≤ 1 := J.wr hw
    omega
  · show sh.count - 1 = 0
    have : sh.count = 0 := J.none_iff.1 h0
    omega

theorem Inv.notify {sh : Sh} {r : List Pc} (J : Inv ⟨sh, .notifying :: r⟩) : Inv ⟨sh, (Pc.idle :: r).map wakeAll⟩ := by
  refine ⟨J.qwf, ?_, List.forall_mem_map.2 (List.forall_mem_cons.2 ⟨fun _ _ _ => nofun, fun p hp k id n e => ?_⟩), ?_,
    List.forall_mem_map.2 (List.forall_mem_cons.2 ⟨nofun, fun p hp => ?_⟩), J.wr, J.none_iff, J.none_q,
    List.forall_mem_map.2 fun p _ k id e => by cases p <;> cases e⟩
  · show (((Pc.idle :: r).map wakeAll).filterMap _).Perm _
    rw [List.filterMap_map, show Pc.ticket? sh.bound ∘ wakeAll = Pc.ticket? sh.bound from funext (ticket_wakeAll _)]
    exact J.tickets_cons rfl
  · cases p <;> cases e
    exact J.kindsQ _ (.tail _ hp) _ _ _ rfl
  · show sh.count = ((Pc.idle :: r).map wakeAll).countP _
    rw [List.countP_map, show Pc.inside sh.bound ∘ wakeAll = Pc.inside sh.bound from funext (inside_wakeAll _)]
    exact J.count_cons rfl
  · rw [inside_wakeAll, kind_wakeAll]; exact J.kinds p (.tail _ hp)

/-- a step rewrites cell `i` of the thread list: it suffices to treat a list whose head is that cell -/
theorem Inv.set {s : State} (I : Inv s) {i : Nat} {a x : Pc} {sh' : Sh} (hi : s.ths[i]? = some a)
    (H : ∀ r, Inv ⟨s.sh, a :: r⟩ → Inv ⟨sh', x :: r⟩) : Inv ⟨sh', s.ths.set i x⟩ := by
  obtain ⟨r, h1, h2⟩ := List.set_perm hi x
  exact (H r (I.of_perm h1)).of_perm h2.symm

theorem inv_step {s t : State} (I : Inv s) (h : Step s t) : Inv t := by
  cases h with
  | callFast i k hi hf => exact I.set hi fun _ J => J.callFast hf
  | callSlow i k hi hf => exact I.set hi fun _ J => J.callSlow hf
  | wakeOk i k id n hi h => exact I.set hi fun _ J => J.wakeOk h
  | wakeNo i k id n hi h => exact I.set hi fun _ J => J.wakeNo h
  | unlockLast i k hi h => exact I.set hi fun _ J => J.unlockLast h
  | unlockMore i k hi h => exact I.set hi fun _ J => J.unlockMore h
  | notify i hi =>
    obtain ⟨r, h1, h2⟩ := List.set_perm hi .idle
    exact (I.of_perm h1).notify.of_perm (h2.map wakeAll).symm

theorem reach_inv {n : Nat} {s : State} (h : Reach n s) : Inv s := by
  induction h with
  | init => exact inv_init n
  | step _ hs ih => exact inv_step ih hs

/-! ### what the invariant says about tickets and about the threads inside -/

/-- every ticket in `[bound, idc)` belongs to a parked thread of the kind the queue records for it -/
theorem Inv.ticket_owner {s : State} (I : Inv s) {id : Nat} (hb : s.sh.bound ≤ id) (hi : id < s.sh.idc) :
    ∃ k n, .waiting k id n ∈ s.ths ∧ kindAt s.sh.queue id = some k := by
  obtain ⟨p, hp, ht⟩ := List.mem_filterMap.1 (I.tickets.mem_iff.2 (List.mem_range'_1.2 ⟨hb, by omega⟩))
  obtain ⟨k, n, rfl, _⟩ := ticket?_eq_some.1 ht
  exact ⟨k, n, hp, I.kindsQ _ hp k id n rfl hb⟩

theorem Inv.two_inside {s : State} (I : Inv s) {i j : Nat} {pi pj : Pc} (hij : i ≠ j) (hi : s.ths[i]? = some pi)
    (hj : s.ths[j]? = some pj) (hii : Pc.inside s.sh.bound pi = true) (hjj : Pc.inside s.sh.bound pj = true) :
    2 ≤ s.sh.count := by
  obtain ⟨r, h1, h2⟩ := List.set_perm hi .idle
  have hj' : pj ∈ Pc.idle :: r :=
    h2.mem_iff.1 (mem_of_getElem? ((List.getElem?_set_ne hij).trans hj))
  have hr : pj ∈ r := (List.mem_cons.1 hj').resolve_left fun e => by rw [e] at hjj; cases hjj
  have := List.countP_pos_iff.2 ⟨pj, hr, hjj⟩
  rw [I.count, h1.countP_eq, List.countP_cons, if_pos hii]
  omega

/-- two distinct threads inside the lock are both readers -/
theorem Inv.inside_readers {s : State} (I : Inv s) {i j : Nat} {pi pj : Pc} (hij : i ≠ j) (hi : s.ths[i]? = some pi)
    (hj : s.ths[j]? = some pj) (hii : Pc.inside s.sh.bound pi = true) (hjj : Pc.inside s.sh.bound pj = true) :
    pi.kind? = some .read ∧ pj.kind? = some .read := by
  have h2 := I.two_inside hij hi hj hii hjj
  have hnw : s.sh.act ≠ .write := fun hw => by have := I.wr hw; omega
  have key : ∀ p ∈ s.ths, Pc.inside s.sh.bound p = true → p.kind? = some .read := by
    intro p hp hin
    obtain ⟨k, hk⟩ := inside_kind_some hin
    cases k with
    | read => exact hk
    | write => exact absurd (I.kinds p hp hin _ hk).symm hnw
  exact ⟨key _ (mem_of_getElem? hi) hii, key _ (mem_of_getElem? hj) hjj⟩

/-- when the count is one, the holder `i0` is the only thread inside -/
theorem Inv.only_inside {s : State} (I : Inv s) {i0 : Nat} {k : Kind} (hi : s.ths[i0]? = some (Pc.holding k)) (h1 : s.sh.count - 1 = 0)
    {i : Nat} {p : Pc} (hp : s.ths[i]? = some p) (hin : Pc.inside s.sh.bound p = true) : i = i0 :=
  Classical.byContradiction fun hne => by have := I.two_inside hne hp hi hin rfl; omega

def holds (s : State) (i : Nat) (k : Kind) : Prop := s.ths[i]? = some (.holding k)

/-- **C01**: in every reachable state, two distinct threads inside the lock are both readers. -/
theorem C01_exclusion (n : Nat) (s : State) (h : Reach n s) (i j : Nat) (hij : i ≠ j) (ki kj : Kind)
    (hi : holds s i ki) (hj : holds s j kj) : ki = .read ∧ kj = .read := by
  obtain ⟨h1, h2⟩ := (reach_inv h).inside_readers hij hi hj rfl rfl
  cases h1; cases h2; exact ⟨rfl, rfl⟩

/-- non-vacuity: two readers inside at once is reachable. -/
example : ∃ s, Reach 2 s ∧ holds s 0 .read ∧ holds s 1 .read := by
  refine ⟨_, Reach.step (Reach.step Reach.init (Step.callFast (init 2) 0 .read rfl rfl)) (Step.callFast _ 1 .read rfl rfl), ?_, ?_⟩ <;> rfl

end Rwp
