import Tulz.Model.IndexIter
/-
  Lemmas about the `RandomAccessIndexIterator` model: the modular `size_t` / `ptrdiff_t` arithmetic of the C++
  behaves like integer arithmetic on positions as long as the true position fits a `ptrdiff_t`, the operators are
  mutually consistent, and the two traversal loops visit exactly the container's elements.

  `toU` is `· % W` and `toS` is the library's balanced remainder `Int.bmod · W`.  So `pos` reads an index as the
  representative in `[-H, H)` of its class modulo `W`, a well-formed iterator is determined by its position
  (`eq_of_pos_eq`), and every operator is the integer operation on positions followed by `Int.bmod · W`, without side
  conditions (`pos_addD`, `pos_subD`, `diff_eq`).  The laws below are `Int.bmod` algebra on top of these.

  `W` and `H` unfold to the literals of the model, so a hypothesis written with the literals (`WF a`, the range
  hypotheses of the theorems for C04) is accepted where `· < W` or `-H ≤ ·` is expected.
-/
namespace Tulz.Iter

/-! ### the two conversions -/

theorem natCast_toU (d : Int) : (toU d : Int) = d % W :=
  Int.toNat_of_nonneg (Int.emod_nonneg d (by decide))

theorem toU_lt (d : Int) : toU d < W :=
  Int.ofNat_lt.mp (natCast_toU d ▸ Int.emod_lt_of_pos d (by decide))

theorem toU_natCast (n : Nat) : toU n = n % W := Int.toNat_natCast (n % W)

theorem toS_eq_bmod (n : Nat) : toS n = Int.bmod n W := by
  have hH : ((W : Int) + 1) / 2 = H := by decide
  unfold Int.bmod
  simp only [hH, ← Int.natCast_emod, Int.ofNat_lt]
  rfl

/-- the `ptrdiff_t` range is the range of `Int.bmod · W`: `W / 2` and `(W + 1) / 2` evaluate to `H` -/
theorem bmod_eq_self {x : Int} (h1 : -H ≤ x) (h2 : x < H) : Int.bmod x W = x := Int.bmod_eq_of_le h1 h2

theorem toS_range (n : Nat) : -H ≤ toS n ∧ toS n < H :=
  toS_eq_bmod n ▸ ⟨Int.le_bmod (by decide), Int.bmod_lt (by decide)⟩

theorem toS_of_lt {n : Nat} (h : n < H) : toS n = n :=
  toS_eq_bmod n ▸ bmod_eq_self (Int.le_trans (by decide) (Int.natCast_nonneg n)) (Int.ofNat_lt.mpr h)

theorem toS_toU (d : Int) (h1 : -H ≤ d) (h2 : d < H) : toS (toU d) = d := by
  rw [toS_eq_bmod, natCast_toU, Int.emod_bmod, bmod_eq_self h1 h2]

theorem toU_toS (n : Nat) (h : n < W) : toU (toS n) = n := by
  apply Int.ofNat_inj.mp
  rw [natCast_toU, toS_eq_bmod, Int.bmod_emod, Int.emod_eq_of_lt (Int.natCast_nonneg n) (Int.ofNat_lt.mpr h)]

/-- `x - y` on `size_t`, the way `subD` and `diff` write it -/
theorem toS_sub (x y : Nat) (h : y ≤ W) : toS ((x + (W - y)) % W) = Int.bmod (x - y) W := by
  rw [toS_eq_bmod, Int.natCast_emod, Int.emod_bmod, Int.natCast_add, Int.natCast_sub h,
    Int.sub_eq_add_neg, Int.add_left_comm, Int.add_bmod_left, ← Int.sub_eq_add_neg]

/-! ### every operator keeps the index a `size_t` -/

theorem WF_mk' (i : Nat) : WF (mk' i) := Nat.mod_lt _ (by decide)
theorem WF_inc (a : It) : WF (inc a) := Nat.mod_lt _ (by decide)
theorem WF_dec (a : It) : WF (dec a) := Nat.mod_lt _ (by decide)
theorem WF_addD (a : It) (d : Int) : WF (addD a d) := Nat.mod_lt _ (by decide)
theorem WF_subD (a : It) (d : Int) : WF (subD a d) := Nat.mod_lt _ (by decide)

theorem It.ext' {a b : It} (h : a.idx = b.idx) : a = b := by
  cases a; cases b; exact congrArg It.mk h

/-! ### positions -/

theorem pos_eq (a : It) : pos a = Int.bmod a.idx W := toS_eq_bmod _

theorem pos_range (a : It) : -H ≤ pos a ∧ pos a < H := toS_range _

theorem bmod_pos (a : It) : Int.bmod (pos a) W = pos a := bmod_eq_self (pos_range a).1 (pos_range a).2

/-- an iterator is determined by its position -/
theorem eq_of_pos_eq (a b : It) (ha : WF a) (hb : WF b) (h : pos a = pos b) : a = b := by
  apply It.ext'
  rw [← toU_toS a.idx ha, ← toU_toS b.idx hb]
  exact congrArg toU h

/-- the index of an iterator whose position is a valid element index is that index -/
theorem idx_of_pos (a : It) (h : WF a) (i : Nat) (hp : pos a = i) : a.idx = i := by
  have hi : i < H := Int.ofNat_lt.mp (hp ▸ (pos_range a).2)
  rw [← toU_toS a.idx h, show toS a.idx = i from hp, toU_natCast, Nat.mod_eq_of_lt (Nat.lt_trans hi (by decide))]

theorem pos_mk' (i : Nat) (h : i < 9223372036854775808) : pos (mk' i) = i := by
  show toS (i % W) = i
  rw [Nat.mod_eq_of_lt (Nat.lt_trans h (by decide)), toS_of_lt h]

theorem pos_addD (a : It) (d : Int) : pos (addD a d) = Int.bmod (pos a + d) W := by
  show toS ((a.idx + toU d) % W) = _
  rw [toS_eq_bmod, Int.natCast_emod, Int.emod_bmod, Int.natCast_add, natCast_toU, Int.add_emod_bmod,
    pos_eq, Int.bmod_add_bmod]

theorem pos_subD (a : It) (d : Int) : pos (subD a d) = Int.bmod (pos a - d) W := by
  show toS ((a.idx + (W - toU d)) % W) = _
  rw [toS_sub _ _ (Nat.le_of_lt (toU_lt d)), natCast_toU, Int.sub_emod_bmod, pos_eq, Int.bmod_sub_bmod]

theorem diff_eq (a b : It) : diff a b = Int.bmod (pos a - pos b) W := by
  show toS ((a.idx + (W - b.idx % W)) % W) = _
  rw [toS_sub _ _ (Nat.le_of_lt (Nat.mod_lt _ (by decide))), Int.natCast_emod, Int.sub_emod_bmod, pos_eq, pos_eq,
    ← Int.sub_bmod]

/-! ### `+=` is an action of the integers; `-=`, `++`, `--` are instances of it -/

theorem addD_addD (a : It) (d e : Int) : addD (addD a d) e = addD a (d + e) :=
  eq_of_pos_eq _ _ (WF_addD _ e) (WF_addD a _)
    (by rw [pos_addD, pos_addD, pos_addD, Int.bmod_add_bmod, Int.add_assoc])

theorem addD_zero (a : It) (h : WF a) : addD a 0 = a :=
  eq_of_pos_eq _ _ (WF_addD a 0) h (by rw [pos_addD, Int.add_zero, bmod_pos])

theorem subD_eq_addD_neg (a : It) (d : Int) : subD a d = addD a (-d) :=
  eq_of_pos_eq _ _ (WF_subD a d) (WF_addD a (-d)) (by rw [pos_subD, pos_addD, Int.sub_eq_add_neg])

theorem inc_eq_addD (a : It) : inc a = addD a 1 := rfl

theorem dec_eq_subD (a : It) : dec a = subD a 1 := rfl

theorem subD_addD (a : It) (d : Int) (h : WF a) : subD (addD a d) d = a := by
  rw [subD_eq_addD_neg, addD_addD, Int.add_right_neg, addD_zero a h]

theorem addD_subD (a : It) (d : Int) (h : WF a) : addD (subD a d) d = a := by
  rw [subD_eq_addD_neg, addD_addD, Int.add_left_neg, addD_zero a h]

theorem dec_inc (a : It) (h : WF a) : dec (inc a) = a := by
  rw [inc_eq_addD, dec_eq_subD, subD_addD a 1 h]

theorem inc_dec (a : It) (h : WF a) : inc (dec a) = a := by
  rw [inc_eq_addD, dec_eq_subD, addD_subD a 1 h]

theorem addD_mk' (k i : Nat) : addD (mk' k) i = mk' (k + i) := by
  show It.mk ((k % W + toU i) % W) = It.mk ((k + i) % W)
  rw [toU_natCast, ← Nat.add_mod]

/-! ### difference -/

theorem diff_addD (a : It) (d : Int) (h1 : -H ≤ d) (h2 : d < H) : diff (addD a d) a = d := by
  rw [diff_eq, pos_addD, Int.bmod_sub_bmod, Int.add_comm, Int.add_sub_cancel, bmod_eq_self h1 h2]

theorem addD_diff (a b : It) (ha : WF a) : addD b (diff a b) = a :=
  eq_of_pos_eq _ _ (WF_addD b _) ha
    (by rw [pos_addD, diff_eq, Int.add_bmod_bmod, Int.add_comm, Int.sub_add_cancel, bmod_pos])

theorem diff_self (a : It) (h : WF a) : diff a a = 0 := by
  rw [diff_eq, Int.sub_self, Int.zero_bmod]

theorem diff_antisymm (a b : It) (ha : WF a) (hb : WF b) (hne : diff a b ≠ -9223372036854775808) :
    diff b a = - diff a b := by
  have hr : -H ≤ diff a b ∧ diff a b < H := toS_range _
  have hne' : diff a b ≠ -(H : Int) := hne
  rw [diff_eq b a, ← Int.neg_sub, ← Int.bmod_neg_bmod, ← diff_eq a b, bmod_eq_self (by omega) (by omega)]

theorem diff_eq_pos_sub (a b : It) (ha : WF a) (hb : WF b) (h1 : -9223372036854775808 ≤ pos a - pos b)
    (h2 : pos a - pos b < 9223372036854775808) : diff a b = pos a - pos b := by
  rw [diff_eq, bmod_eq_self h1 h2]

/-- `end() - begin()` is the size, for every container whose size fits a `ptrdiff_t` -/
theorem diff_mk' (n k : Nat) (hk : k ≤ n) (h : n < H) : diff (mk' n) (mk' k) = (n - k : Nat) := by
  rw [diff_eq, pos_mk' n h, pos_mk' k (Nat.lt_of_le_of_lt hk h), ← Int.natCast_sub hk, ← toS_eq_bmod,
    toS_of_lt (Nat.lt_of_le_of_lt (Nat.sub_le n k) h)]

/-! ### the comparison operators are mutually consistent and order iterators by index -/

theorem bne_eq_not_beq (a b : It) : bne a b = !(beq a b) := rfl

theorem beq_self (a : It) : beq a a = true := beq_self_eq_true a.idx

theorem beq_iff (a b : It) : beq a b = true ↔ a = b :=
  ⟨fun h => It.ext' (eq_of_beq h), fun h => h ▸ beq_self a⟩

theorem bgt_eq_blt_swap (a b : It) : bgt a b = blt b a := rfl

theorem bge_eq_not_blt (a b : It) : bge a b = !(blt a b) := by
  unfold bge blt
  rw [← decide_not, decide_eq_decide]
  exact Nat.not_lt.symm

theorem ble_eq_blt_or_beq (a b : It) : ble a b = (blt a b || beq a b) := by
  unfold ble blt beq
  rw [Bool.eq_iff_iff, Bool.or_eq_true, decide_eq_true_eq, decide_eq_true_eq, beq_iff_eq]
  exact Nat.le_iff_lt_or_eq

theorem trichotomy (a b : It) :
    (blt a b = true ∧ beq a b = false ∧ bgt a b = false) ∨
    (blt a b = false ∧ beq a b = true ∧ bgt a b = false) ∨
    (blt a b = false ∧ beq a b = false ∧ bgt a b = true) := by
  rcases Nat.lt_trichotomy a.idx b.idx with h | h | h
  · exact .inl ⟨decide_eq_true h, beq_eq_false_iff_ne.mpr (Nat.ne_of_lt h), decide_eq_false (Nat.lt_asymm h)⟩
  · exact .inr (.inl ⟨decide_eq_false (h ▸ Nat.lt_irrefl _), beq_iff_eq.mpr h, decide_eq_false (h ▸ Nat.lt_irrefl _)⟩)
  · exact .inr (.inr ⟨decide_eq_false (Nat.lt_asymm h), beq_eq_false_iff_ne.mpr (Nat.ne_of_gt h), decide_eq_true h⟩)

/-- for iterators inside (or one past) a container that fits a `ptrdiff_t`, `<` is the order of the positions -/
theorem blt_iff_pos (a b : It) (ha : a.idx < 9223372036854775808) (hb : b.idx < 9223372036854775808) :
    blt a b = true ↔ pos a < pos b := by
  unfold blt pos
  rw [toS_of_lt ha, toS_of_lt hb, decide_eq_true_eq, Int.ofNat_lt]

section
variable {ε α : Type} (get : Nat → Except ε α)

/-! ### scripts: an iterator that stands for the unbounded position `p` of the specification (`pos a = Int.bmod p W`)
    keeps doing so, whatever the commands -/

theorem runCmd_pos (a a' : It) (p : Int) (c : Cmd) (o : Obs α) (h : WF a) (hp : pos a = Int.bmod p W)
    (hr : runCmd get a c = .ok (a', o)) : WF a' ∧ pos a' = Int.bmod (specMove p c) W := by
  have add (d : Int) : pos (addD a d) = Int.bmod (p + d) W := by rw [pos_addD, hp, Int.bmod_add_bmod]
  have sub (d : Int) : pos (subD a d) = Int.bmod (p - d) W := by rw [pos_subD, hp, Int.bmod_sub_bmod]
  cases c
  case deref =>
    simp only [runCmd, bind, Except.bind] at hr
    split at hr
    · cases hr
    · cases hr; exact ⟨h, hp⟩
  -- every other command is `pure (moved iterator, observation)`; `inc a`, `dec a` unfold to `addD a 1`, `subD a 1`
  all_goals have e := (Prod.mk.inj (Except.ok.inj hr)).1
  case preInc | postInc => exact e ▸ ⟨WF_inc a, add 1⟩
  case preDec | postDec => exact e ▸ ⟨WF_dec a, sub 1⟩
  case addEq d | plus d => exact e ▸ ⟨WF_addD a d, add d⟩
  case subEq d | minus d => exact e ▸ ⟨WF_subD a d, sub d⟩
  case dist | cmp => exact e ▸ ⟨h, hp⟩

/-- No bound on the positions is needed: whatever the script does in between, the iterator ends at the position the
    specification computes, reduced to the `ptrdiff_t` range. -/
theorem runScript_pos (cs : List Cmd) :
    ∀ (a a' : It) (p : Int) (os : List (Obs α)), WF a → pos a = Int.bmod p W → runScript get a cs = .ok (a', os) →
      WF a' ∧ pos a' = Int.bmod (cs.foldl specMove p) W := by
  induction cs with
  | nil => intro a a' p os h hp hr; cases hr; exact ⟨h, hp⟩
  | cons c cs ih =>
    intro a a' p os h hp hr
    simp only [runScript, bind, Except.bind] at hr
    split at hr
    · cases hr
    · rename_i r hr1
      obtain ⟨hw1, hp1⟩ := runCmd_pos get a r.1 p c r.2 h hp hr1
      split at hr
      · cases hr
      · rename_i r2 hr2
        cases hr
        exact ih r.1 r2.1 (specMove p c) r2.2 hw1 hp1 hr2

/-! ### the traversal loops over a container holding `xs` -/

theorem mk'_eq {k : Nat} (h : k < W) : mk' k = ⟨k⟩ := congrArg It.mk (Nat.mod_eq_of_lt h)

theorem inc_mk {k : Nat} (h : k + 1 < W) : inc ⟨k⟩ = ⟨k + 1⟩ := congrArg It.mk (Nat.mod_eq_of_lt h)

/-- one turn of `for (it = a; it != e; ++it) out.push_back(*it)` -/
theorem walkFwd_step {e a : It} {v : α} (fuel : Nat) (hne : beq a e = false) (hv : get a.idx = .ok v) :
    walkFwd get e (fuel + 1) a = (walkFwd get e fuel (inc a)).map (Option.map (v :: ·)) := by
  rw [walkFwd, hne]
  simp only [Bool.false_eq_true, if_false, deref, hv, bind, Except.bind]
  cases walkFwd get e fuel (inc a) <;> rfl

theorem walkFwd_done (e : It) (fuel : Nat) : walkFwd get e fuel e = .ok (some []) := by
  cases fuel <;> simp only [walkFwd, beq_self, if_true] <;> rfl

/-- `for (it = begin()+k; it != end(); ++it) out.push_back(*it)` stops after `size() - k` turns and yields the
    elements from `k` on. -/
theorem walkFwd_drop (xs : List α)
    (hget : ∀ i (hi : i < xs.length), get i = .ok xs[i]) (hW : xs.length < W) :
    ∀ (fuel k : Nat), k ≤ xs.length → xs.length ≤ k + fuel →
      walkFwd get ⟨xs.length⟩ fuel ⟨k⟩ = .ok (some (xs.drop k)) := by
  intro fuel
  induction fuel with
  | zero =>
    intro k hk hf
    rw [Nat.le_antisymm hk hf, List.drop_length]; exact walkFwd_done ..
  | succ fuel ih =>
    intro k hk hf
    rcases Nat.lt_or_eq_of_le hk with hlt | rfl
    · rw [walkFwd_step get fuel (beq_eq_false_iff_ne.mpr (Nat.ne_of_lt hlt)) (hget k hlt),
        inc_mk (Nat.lt_of_le_of_lt hlt hW), ih (k + 1) hlt (by omega), List.drop_eq_getElem_cons hlt]
      rfl
    · rw [List.drop_length]; exact walkFwd_done ..

/-- one turn of `for (it = a; it != b;) { --it; out.push_back(*it); }` -/
theorem walkBwd_step {b a : It} {v : α} (fuel : Nat) (hne : beq a b = false) (hv : get (dec a).idx = .ok v) :
    walkBwd get b (fuel + 1) a = (walkBwd get b fuel (dec a)).map (Option.map (v :: ·)) := by
  rw [walkBwd, hne]
  simp only [Bool.false_eq_true, if_false, deref, hv, bind, Except.bind]
  cases walkBwd get b fuel (dec a) <;> rfl

theorem walkBwd_done (b : It) (fuel : Nat) : walkBwd get b fuel b = .ok (some []) := by
  cases fuel <;> simp only [walkBwd, beq_self, if_true] <;> rfl

/-- `for (it = begin()+k; it != begin();) { --it; out.push_back(*it); }` yields the first `k` elements in reverse
    order. -/
theorem walkBwd_take (xs : List α)
    (hget : ∀ i (hi : i < xs.length), get i = .ok xs[i]) (hW : xs.length < W) :
    ∀ (k fuel : Nat), k ≤ xs.length → k ≤ fuel →
      walkBwd get ⟨0⟩ fuel ⟨k⟩ = .ok (some (xs.take k).reverse) := by
  intro k
  induction k with
  | zero => intro fuel _ _; exact walkBwd_done ..
  | succ k ih =>
    intro fuel hk hf
    cases fuel with
    | zero => exact absurd hf (Nat.not_succ_le_zero k)
    | succ fuel =>
      have hd : dec ⟨k + 1⟩ = ⟨k⟩ := by
        rw [← inc_mk (Nat.lt_of_le_of_lt hk hW)]; exact dec_inc _ (Nat.lt_trans hk hW)
      rw [walkBwd_step get fuel rfl (by rw [hd]; exact hget k hk), hd,
        ih fuel (Nat.le_of_lt hk) (Nat.le_of_succ_le_succ hf), List.take_succ_eq_append_getElem hk,
        List.reverse_append]
      rfl

/-- the loops a client writes, `begin()` to `end()` and back, with `size()` as the step budget -/
theorem walkFwd_spec (xs : List α)
    (hget : ∀ i (hi : i < xs.length), get i = .ok xs[i]) (hW : xs.length < W) :
    walkFwd get (mk' xs.length) xs.length (mk' 0) = .ok (some xs) := by
  rw [mk'_eq hW]
  exact walkFwd_drop get xs hget hW xs.length 0 (Nat.zero_le _) (Nat.le_add_left ..)

theorem walkBwd_spec (xs : List α)
    (hget : ∀ i (hi : i < xs.length), get i = .ok xs[i]) (hW : xs.length < W) :
    walkBwd get (mk' 0) xs.length (mk' xs.length) = .ok (some xs.reverse) := by
  have := walkBwd_take get xs hget hW xs.length xs.length (Nat.le_refl _) (Nat.le_refl _)
  rwa [List.take_length, ← mk'_eq hW] at this

end
end Tulz.Iter
