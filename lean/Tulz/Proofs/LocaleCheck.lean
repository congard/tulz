import Tulz.Proofs.Locale
/-! Executable checkers for `LangFacts` / `CountryFacts`, written for evaluation by the kernel over the regenerated
    tables (Props/C19.lean), with their soundness.  The kernel evaluates by name: an argument used twice is computed
    twice, so every function here consumes its arguments once, by structural recursion. -/
namespace Tulz.Locale
open List

/-! ## distinctness of a list of numbers: sort, then compare neighbours

Only `merge_perm`/`sortN_perm` are proved about the sort; that its output is ascending is computed, not proved. -/

/-- `mergeInto x (merge xs) ys = merge (x :: xs) ys`: each of the two functions is structural in one list, so the kernel
unfolds them (core's `List.merge` and `List.mergeSort` are by well-founded recursion, which it does not) -/
def mergeInto (x : Nat) (r : List Nat → List Nat) : List Nat → List Nat
  | [] => x :: r []
  | y :: ys => cond (Nat.blt y x) (y :: mergeInto x r ys) (x :: r (y :: ys))

def merge : List Nat → List Nat → List Nat
  | [] => id
  | x :: xs => mergeInto x (merge xs)

/-- sorts the first `2 ^ d` elements; the rest is returned untouched -/
def sortN : Nat → List Nat → List Nat × List Nat
  | _, [] => ([], [])
  | 0, x :: l => ([x], l)
  | d + 1, l =>
    match sortN d l with
    | (a, r) =>
      match sortN d r with
      | (b, r') => (merge a b, r')

def ascending : List Nat → Bool
  | a :: b :: l => Nat.blt a b && ascending (b :: l)
  | _ => true

/-- the depth is just enough for the whole list: every further level would wrap the result in one more `merge _ []`
for the kernel to walk through -/
def nodupB (l : List Nat) : Bool :=
  match sortN (l.length.log2 + 1) l with
  | (s, r) => ascending (s ++ r)

theorem merge_perm (xs ys : List Nat) : merge xs ys ~ xs ++ ys := by
  induction xs generalizing ys with
  | nil => exact .refl _
  | cons x xs ih =>
    show mergeInto x (merge xs) ys ~ _
    induction ys with
    | nil => exact (ih []).cons x
    | cons y ys ihy =>
      unfold mergeInto
      cases Nat.blt y x
      · exact (ih (y :: ys)).cons x
      · exact (ihy.cons y).trans perm_middle.symm

theorem sortN_perm (d : Nat) (l : List Nat) : (sortN d l).1 ++ (sortN d l).2 ~ l := by
  induction d generalizing l with
  | zero => cases l <;> exact .refl _
  | succ d ih =>
    cases l with
    | nil => exact .refl _
    | cons x l =>
      unfold sortN
      refine .trans ?_ (ih (x :: l))
      refine .trans ?_ ((ih _).append_left _)
      rw [← append_assoc]
      exact (merge_perm _ _).append_right _

theorem pairwise_of_ascending : ∀ l, ascending l = true → l.Pairwise (· < ·)
  | [], _ => .nil
  | [_], _ => pairwise_singleton _ _
  | a :: b :: l, h => by
    unfold ascending at h
    rw [Bool.and_eq_true, Nat.blt_eq] at h
    have ih := pairwise_of_ascending (b :: l) h.2
    refine pairwise_cons.2 ⟨fun c hc => ?_, ih⟩
    rcases mem_cons.1 hc with rfl | hc
    · exact h.1
    · exact Nat.lt_trans h.1 (rel_of_pairwise_cons ih hc)

theorem nodup_of_nodupB (l : List Nat) (h : nodupB l = true) : l.Nodup :=
  (sortN_perm _ l).nodup ((pairwise_of_ascending _ h).imp Nat.ne_of_lt)

theorem inj_of_nodup_map {α : Type} (f : α → Nat) {l : List α} (h : (l.map f).Nodup) :
    ∀ a ∈ l, ∀ b ∈ l, f a = f b → a = b :=
  have p : l.Pairwise (fun a b => f a ≠ f b) := pairwise_map.1 h
  Pairwise.forall_of_forall_of_flip (R := fun a b => f a = f b → a = b) (fun _ _ _ => rfl)
    (p.imp fun n e => absurd e n) (p.imp fun n e => absurd e.symm n)

/-! ## the checks

The per-key checks run on the byte lists.  The comparisons between keys run on the packed tables `E` (one `Nat` per
string, emitted by the translator) after the kernel has checked `T.map encPair = E`; they transfer to `T` by congruence
(`a = b → enc a = enc b`), so no property of `enc` is needed. -/

def enc : Bytes → Nat
  | [] => 1
  | b :: bs => enc bs * 256 + b
def encPair (e : Bytes × Bytes) : Nat × Nat := (enc e.1, enc e.2)

/-- `k` has fewer than `n` bytes, none of them `bad` -/
def keyOk (bad : Nat → Bool) : Nat → Bytes → Bool
  | 0, _ => false
  | _ + 1, [] => true
  | n + 1, b :: k => !bad b && keyOk bad n k

def countryBad (b : Nat) : Bool := Nat.beq b 0 || Nat.beq b underscore
def langBad (b : Nat) : Bool := countryBad b || Nat.beq b dot

/-- no key has `bufSize` bytes or more, or a `bad` byte -/
def keysOk (bad : Nat → Bool) (T : Table) : Bool := T.all fun e => keyOk bad bufSize e.1 && keyOk bad bufSize e.2

/-- no code is a name: linear fast path (every code at most `n` bytes, every name longer; `n` is a hint emitted by the
translator), otherwise all pairs of the packed table -/
def disjointB (T : Table) (E : List (Nat × Nat)) (n : Nat) : Bool :=
  T.all (fun e => Nat.ble e.1.length n && Nat.blt n e.2.length) || E.all fun x => E.all fun y => !Nat.beq x.1 y.2

def langFactsB (T : Table) (E : List (Nat × Nat)) (n : Nat) : Bool :=
  keysOk langBad T && (T.map encPair == E) && disjointB T E n && T.contains fallbackLang

/-- codes unique, names unique, no code a name: all keys of the table are distinct -/
def countryFactsB (T : Table) (E : List (Nat × Nat)) : Bool :=
  keysOk countryBad T && (T.map encPair == E) && nodupB (E.map (·.1) ++ E.map (·.2)) && T.contains fallbackCountry

theorem keyOk_iff (bad : Nat → Bool) (n : Nat) (k : Bytes) :
    keyOk bad n k = true ↔ k.length < n ∧ ∀ b ∈ k, bad b = false := by
  induction k generalizing n with
  | nil => cases n <;> simp [keyOk]
  | cons b k ih => cases n <;> simp [keyOk, ih, and_left_comm]

theorem keysOk_sound {bad : Nat → Bool} {T : Table} (h : keysOk bad T = true) :
    (∀ e ∈ T, e.1.length < bufSize ∧ e.2.length < bufSize) ∧ ∀ c, bad c = true → ∀ e ∈ T, c ∉ e.1 ∧ c ∉ e.2 := by
  simp only [keysOk, all_eq_true, Bool.and_eq_true, keyOk_iff] at h
  have nm {k : Bytes} (hk : ∀ b ∈ k, bad b = false) {c : Nat} (hc : bad c = true) : c ∉ k :=
    fun m => Bool.false_ne_true ((hk c m).symm.trans hc)
  exact ⟨fun e he => ⟨(h e he).1.1, (h e he).2.1⟩, fun c hc e he => ⟨nm (h e he).1.2 hc, nm (h e he).2.2 hc⟩⟩

theorem disjoint_of_check (T : Table) (n : Nat) (h : disjointB T (T.map encPair) n = true) :
    ∀ e ∈ T, ∀ e' ∈ T, e.1 ≠ e'.2 := by
  intro e he e' he' heq
  rcases Bool.or_eq_true_iff.1 h with h | h
  · simp only [all_eq_true, Bool.and_eq_true, Nat.ble_eq, Nat.blt_eq] at h
    have h1 := (h e he).1
    rw [heq] at h1
    exact Nat.lt_irrefl _ (Nat.lt_of_le_of_lt h1 (h e' he').2)
  · simp only [all_eq_true, Bool.not_eq_true'] at h
    exact Nat.ne_of_beq_eq_false (h _ (mem_map_of_mem he) _ (mem_map_of_mem he')) (congrArg enc heq)

theorem langFacts_of_check (T : Table) (E : List (Nat × Nat)) (n : Nat) (h : langFactsB T E n = true) : LangFacts T := by
  simp only [langFactsB, Bool.and_eq_true, beq_iff_eq, contains_eq_mem, decide_eq_true_eq] at h
  obtain ⟨⟨⟨hk, rfl⟩, hd⟩, hf⟩ := h
  obtain ⟨hs, nm⟩ := keysOk_sound hk
  exact {
    short := hs
    disjoint := disjoint_of_check T n hd
    noUnderscore := nm underscore rfl
    noDot := nm dot rfl
    noNul := nm 0 rfl
    hasFallback := hf }

theorem countryFacts_of_check (T : Table) (E : List (Nat × Nat)) (h : countryFactsB T E = true) : CountryFacts T := by
  simp only [countryFactsB, Bool.and_eq_true, beq_iff_eq, contains_eq_mem, decide_eq_true_eq] at h
  obtain ⟨⟨⟨hk, rfl⟩, hn⟩, hf⟩ := h
  obtain ⟨hs, nm⟩ := keysOk_sound hk
  rw [map_map, map_map] at hn
  obtain ⟨hc, hv, hcv⟩ := nodup_append.1 (nodup_of_nodupB _ hn)
  exact {
    short := hs
    noUnderscore := nm underscore rfl
    noNul := nm 0 rfl
    codesUnique := fun e he e' he' hh => inj_of_nodup_map _ hc e he e' he' (congrArg enc hh)
    namesUnique := fun e he e' he' hh => inj_of_nodup_map _ hv e he e' he' (congrArg enc hh)
    disjoint := fun e he e' he' hh => hcv _ (mem_map_of_mem he) _ (mem_map_of_mem he') (congrArg enc hh)
    hasFallback := hf }

end Tulz.Locale
