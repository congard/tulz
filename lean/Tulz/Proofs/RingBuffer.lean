import Tulz.Model.RingBufferStore
import Tulz.Proofs.Rot
/-
  C04 / C09, the buffer itself.  `Rep b xs`: buffer `b` holds exactly the values `xs`, in order, and
  nothing else is alive in its block.  All layout reasoning goes through one list, `rot b.pos b.data`
  (Proofs/Rot.lean): the block read in logical order.  Under `Rep b xs` it is `xs.map .live` followed by
  slots that hold no value (`Rep.rot_eq`, `Rep.of_rot`).
-/
namespace Tulz
variable {α : Type}

namespace RB

/-- the representation invariant -/
structure Rep (b : RB α) (xs : List α) : Prop where
  len_eq : xs.length = b.size
  size_le : b.size ≤ b.cap
  data_len : b.data.length = b.cap
  pos_lt : 0 < b.cap → b.pos < b.cap
  pos_z : b.cap = 0 → b.pos = 0
  live : ∀ i (h : i < xs.length), b.data[b.phys i]? = some (.live xs[i])
  dead : ∀ i, b.size ≤ i → i < b.cap → ∀ v, b.data[b.phys i]? ≠ some (.live v)

/-! ### `Rep` in terms of the block read in logical order -/

theorem Rep.pos_le {b : RB α} {xs} (h : Rep b xs) : b.pos ≤ b.cap :=
  (Nat.eq_zero_or_pos b.cap).elim (fun hz => h.pos_z hz ▸ Nat.zero_le _) (fun hc => Nat.le_of_lt (h.pos_lt hc))

theorem Rep.rot_get {b : RB α} {xs} (h : Rep b xs) {i : Nat} (hi : i < b.cap) :
    (rot b.pos b.data)[i]? = b.data[b.phys i]? :=
  Tulz.rot_get h.data_len h.pos_le hi

theorem Rep.rot_eq {b : RB α} {xs} (h : Rep b xs) :
    ∃ junk, rot b.pos b.data = xs.map .live ++ junk ∧ junk.length = b.cap - b.size ∧ ∀ s ∈ junk, s.val? = none := by
  have hlen : (rot b.pos b.data).length = b.cap := by rw [rot_length, h.data_len]
  refine ⟨(rot b.pos b.data).drop b.size, ?_, by rw [List.length_drop, hlen], ?_⟩
  · have ht : (rot b.pos b.data).take b.size = xs.map .live := by
      apply List.ext_getElem?
      intro i
      by_cases hi : i < b.size
      · have hx : i < xs.length := by rw [h.len_eq]; exact hi
        rw [List.getElem?_take_of_lt hi, h.rot_get (Nat.lt_of_lt_of_le hi h.size_le), h.live i hx, List.getElem?_map,
          List.getElem?_eq_getElem hx]
        rfl
      · rw [List.getElem?_eq_none (Nat.le_trans (List.length_take_le _ _) (Nat.le_of_not_lt hi)),
          List.getElem?_eq_none (by rw [List.length_map, h.len_eq]; exact Nat.le_of_not_lt hi)]
    rw [← ht, List.take_append_drop]
  · intro s hs
    obtain ⟨k, hk⟩ := List.getElem?_of_mem hs
    rw [List.getElem?_drop] at hk
    have hlt : b.size + k < b.cap := by
      rw [← hlen]; exact (List.getElem?_eq_some_iff.mp hk).1
    rw [h.rot_get hlt] at hk
    cases s with
    | live v => exact absurd hk (h.dead _ (Nat.le_add_right _ _) hlt v)
    | raw => rfl
    | shell => rfl

theorem Rep.of_rot {b : RB α} {xs junk} (hd : b.data.length = b.cap) (hp : b.pos < b.cap ∨ b.pos = 0)
    (hl : xs.length = b.size) (hv : rot b.pos b.data = xs.map .live ++ junk) (hj : ∀ s ∈ junk, s.val? = none) :
    Rep b xs := by
  have hlen : xs.length ≤ b.cap := by
    rw [← hd, ← rot_length b.pos b.data, hv, List.length_append, List.length_map]; exact Nat.le_add_right _ _
  have hg : ∀ i, i < b.cap → b.data[b.phys i]? = (xs.map Slot.live ++ junk)[i]? := by
    intro i hi
    rw [← hv, Tulz.rot_get hd (hp.elim Nat.le_of_lt (fun e => e ▸ Nat.zero_le _)) hi]; rfl
  refine ⟨hl, hl ▸ hlen, hd, fun hc => hp.elim id (fun e => e ▸ hc),
    fun hz => hp.elim (fun h => absurd (hz ▸ h) (Nat.not_lt_zero _)) id, ?_, ?_⟩
  · intro i hi
    rw [hg i (Nat.lt_of_lt_of_le hi hlen), List.getElem?_append_left (by rw [List.length_map]; exact hi),
      List.getElem?_map, List.getElem?_eq_getElem hi]
    rfl
  · intro i hs hi v e
    rw [hg i hi, List.getElem?_append_right (by rw [List.length_map, hl]; exact hs)] at e
    cases hj _ (List.mem_of_getElem? e)

theorem Rep.dead_slot {b : RB α} {xs} (h : Rep b xs) (i : Nat) (hs : b.size ≤ i) (hi : i < b.cap) :
    ∃ s, b.data[b.phys i]? = some s ∧ s.val? = none := by
  have hlt : b.phys i < b.data.length := by rw [h.data_len]; exact Nat.mod_lt _ (Nat.zero_lt_of_lt hi)
  refine ⟨b.data[b.phys i], List.getElem?_eq_getElem hlt, ?_⟩
  cases e : b.data[b.phys i] with
  | live v => exact absurd (e ▸ List.getElem?_eq_getElem hlt) (h.dead i hs hi v)
  | raw => rfl
  | shell => rfl

/-! ### the memory primitives on known slots -/

theorem read_live {d : List (Slot α)} {i : Nat} {v : α} (h : d[i]? = some (.live v)) : Mem.read d i = .ok v := by
  simp only [Mem.read, h]; rfl

theorem construct_dead {d : List (Slot α)} {i : Nat} {s : Slot α} (v : α) (h : d[i]? = some s) (hs : s.val? = none) :
    Mem.construct d i v = .ok (d.set i (.live v)) := by
  cases s with
  | live w => cases hs
  | raw => simp only [Mem.construct, h]; rfl
  | shell => simp only [Mem.construct, h]; rfl

theorem assign_live {d : List (Slot α)} {i : Nat} {w : α} (v : α)
    (h : d[i]? = some (.live w)) : Mem.assign d i v = .ok (d.set i (.live v)) := by
  simp only [Mem.assign, h]; rfl

theorem moveOut_live {d : List (Slot α)} {i : Nat} {v : α}
    (h : d[i]? = some (.live v)) : Mem.moveOut d i = .ok (v, d.set i .shell) := by
  simp only [Mem.moveOut, h]; rfl

theorem destroy_live {d : List (Slot α)} {i : Nat} {v : α}
    (h : d[i]? = some (.live v)) : Mem.destroy d i = .ok (d.set i .raw) := by
  simp only [Mem.destroy, h]; rfl

theorem liveVals_append (a b : List (Slot α)) : Mem.liveVals (a ++ b) = Mem.liveVals a ++ Mem.liveVals b :=
  List.filterMap_append

theorem liveVals_map_live (xs : List α) : Mem.liveVals (xs.map Slot.live) = xs := by
  rw [Mem.liveVals, List.filterMap_map]; exact List.filterMap_some

theorem liveVals_dead {l : List (Slot α)} (h : ∀ s ∈ l, s.val? = none) : Mem.liveVals l = [] :=
  List.filterMap_eq_nil_iff.mpr h

/-- **C09**: exactly the logical elements are alive in the block -/
theorem Rep.liveVals_perm {b : RB α} {xs} (h : Rep b xs) : (Mem.liveVals b.data).Perm xs := by
  obtain ⟨junk, hv, -, hj⟩ := h.rot_eq
  have : (Mem.liveVals (rot b.pos b.data)).Perm (Mem.liveVals b.data) := (rot_perm b.pos b.data).filterMap _
  rw [hv, liveVals_append, liveVals_map_live, liveVals_dead hj, List.append_nil] at this
  exact this.symm

/-! ### constructors -/

theorem raw_dead (n : Nat) : ∀ s ∈ List.replicate n (Slot.raw : Slot α), s.val? = none := by
  intro s hs
  rw [List.eq_of_mem_replicate hs]; rfl

/-- contents stored contiguously (not wrapped around the end of the block) between slots without a value -/
theorem rep_at {pre post : List (Slot α)} (xs : List α) {cap : Nat}
    (hcap : (pre ++ (xs.map Slot.live ++ post)).length = cap) (hp : pre.length < cap ∨ pre.length = 0)
    (hpre : ∀ s ∈ pre, s.val? = none) (hpost : ∀ s ∈ post, s.val? = none) :
    Rep ⟨pre.length, xs.length, cap, pre ++ (xs.map .live ++ post)⟩ xs :=
  Rep.of_rot (junk := post ++ pre) hcap hp rfl
    (by rw [rot, List.drop_left, List.take_left, List.append_assoc])
    (fun s hs => (List.mem_append.mp hs).elim (hpost s) (hpre s))

theorem rep_fresh (vs : List α) (cap : Nat) (hn : vs.length ≤ cap) :
    Rep ⟨0, vs.length, cap, vs.map .live ++ List.replicate (cap - vs.length) .raw⟩ vs :=
  rep_at (pre := []) vs
    (by rw [List.nil_append, List.length_append, List.length_map, List.length_replicate, Nat.add_sub_cancel' hn])
    (.inr rfl) (fun _ h => nomatch h) (raw_dead _)

theorem rep_new (cap : Nat) : Rep (RB.new cap : RB α) [] :=
  rep_fresh [] cap (Nat.zero_le _)

theorem rep_zombie : Rep (RB.zombie : RB α) [] :=
  rep_new 0

theorem constructAll_raw (vs : List α) (n : Nat) : ∀ pre : List (Slot α),
    constructAll (pre ++ List.replicate (vs.length + n) .raw) pre.length vs
      = .ok (pre ++ (vs.map .live ++ List.replicate n .raw)) := by
  induction vs with
  | nil => intro pre; rw [List.length_nil, Nat.zero_add]; rfl
  | cons v vs ih =>
    intro pre
    have hget : (pre ++ List.replicate (vs.length + n + 1) Slot.raw)[pre.length]? = some (Slot.raw : Slot α) := by
      rw [List.getElem?_append_right (Nat.le_refl _), Nat.sub_self]; rfl
    have := ih (pre ++ [.live v])
    rw [List.length_append, List.append_assoc, List.append_assoc] at this
    rw [List.length_cons, Nat.add_right_comm, constructAll, construct_dead v hget rfl,
      List.set_append_right _ _ (Nat.le_refl _), Nat.sub_self]
    exact this

theorem constructAll_alloc (vs : List α) (cap : Nat) (hn : vs.length ≤ cap) :
    constructAll (Mem.alloc cap) 0 vs = .ok (vs.map .live ++ List.replicate (cap - vs.length) .raw) := by
  have := constructAll_raw vs (cap - vs.length) []
  rwa [Nat.add_sub_cancel' hn] at this

theorem ofList_ok (vs : List α) (capacity : Option Nat) (hc : ∀ c, capacity = some c → vs.length ≤ c) :
    ∃ b, RB.ofList vs capacity = .ok b ∧ Rep b vs ∧ b.cap = capacity.getD vs.length := by
  cases capacity with
  | none =>
    refine ⟨_, ?_, rep_fresh vs vs.length (Nat.le_refl _), rfl⟩
    simp only [RB.ofList, constructAll_alloc vs _ (Nat.le_refl _)]; rfl
  | some c =>
    refine ⟨_, ?_, rep_fresh vs c (hc c rfl), rfl⟩
    simp only [RB.ofList, constructAll_alloc vs c (hc c rfl)]; rfl

/-! ### reads -/

theorem get_ok {b : RB α} {xs} (h : Rep b xs) (i : Nat) (hi : i < xs.length) : b.get i = .ok xs[i] :=
  read_live (h.live i hi)

theorem readRange_ok {b : RB α} {xs} (h : Rep b xs) (n frm : Nat) (hle : frm + n ≤ xs.length) :
    b.readRange frm n = .ok ((xs.drop frm).take n) := by
  induction n generalizing frm with
  | zero => rfl
  | succ n ih =>
    have hf : frm < xs.length := Nat.lt_of_lt_of_le (Nat.lt_add_of_pos_right (Nat.succ_pos n)) hle
    rw [readRange, get_ok h frm hf, ih (frm + 1) (by rw [Nat.add_right_comm]; exact hle),
      List.drop_eq_getElem_cons hf, List.take_succ_cons]
    rfl

theorem toList_ok {b : RB α} {xs} (h : Rep b xs) : b.toList = .ok xs := by
  rw [RB.toList, ← h.len_eq, readRange_ok h xs.length 0 (Nat.le_of_eq (Nat.zero_add _)), List.drop_zero,
    List.take_length]

theorem front_ok {b : RB α} {xs} (h : Rep b xs) (hne : xs ≠ []) : b.front = .ok (xs.head hne) := by
  have hl : 0 < xs.length := List.length_pos_iff.mpr hne
  rw [RB.front, if_neg (h.len_eq ▸ Nat.ne_of_gt hl), get_ok h 0 hl, List.head_eq_getElem]

theorem back_ok {b : RB α} {xs} (h : Rep b xs) (hne : xs ≠ []) : b.back = .ok (xs.getLast hne) := by
  have hl : 0 < xs.length := List.length_pos_iff.mpr hne
  rw [RB.back, if_neg (h.len_eq ▸ Nat.ne_of_gt hl), ← h.len_eq, get_ok h _ (Nat.sub_lt hl Nat.one_pos),
    List.getLast_eq_getElem]

end RB
end Tulz
