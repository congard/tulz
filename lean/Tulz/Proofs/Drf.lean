import Tulz.Model.Drf
/-!
# Soundness of locking disciplines (generic part of C15)

`discipline_sound`: a well-formed execution that follows a discipline has no data race — for every trace, any
number of threads, locks and locations, any length.  The proof is the classical lockset argument, extended to
reader-writer locks: if `t1` holds a lock at access `i` and `t2` holds it at a later access `j` in a conflicting
mode, then `t2` acquired it after `i` (`no_conflicting_holders`), so `t1` released it in between (`holds_or_released`,
`acquire_excludes`) and `i →po release →sw acquire →po j`.

The lock state is read through `Holds` only.  The two recursive functions under it are analysed once each
(`exclOwner_succ`, `sharedCount_succ`); `holds_of_succ` and `holds_succ` say how one event changes `Holds`, for both modes.
-/
namespace Tulz.Drf

variable {L M : Type} [DecidableEq M]

theorem exclOwner_succ (tr : Trace L M) (m : M) (k : Nat) :
    (∃ t, tr[k]? = some ⟨t, .acq m .excl⟩ ∧ exclOwner tr m (k+1) = some t) ∨
    (∃ t, tr[k]? = some ⟨t, .rel m .excl⟩ ∧ exclOwner tr m (k+1) = none) ∨
    exclOwner tr m (k+1) = exclOwner tr m k := by
  rw [exclOwner]
  split
  · rename_i t m' heq
    by_cases hm : m' = m
    · subst hm; exact Or.inl ⟨t, heq, if_pos rfl⟩
    · exact Or.inr (Or.inr (if_neg hm))
  · rename_i t m' heq
    by_cases hm : m' = m
    · subst hm; exact Or.inr (Or.inl ⟨t, heq, if_pos rfl⟩)
    · exact Or.inr (Or.inr (if_neg hm))
  · exact Or.inr (Or.inr rfl)

theorem sharedCount_succ (tr : Trace L M) (m : M) (t k : Nat) :
    (tr[k]? = some ⟨t, .acq m .shared⟩ ∧ sharedCount tr m t (k+1) = sharedCount tr m t k + 1) ∨
    (tr[k]? = some ⟨t, .rel m .shared⟩ ∧ sharedCount tr m t (k+1) = sharedCount tr m t k - 1) ∨
    sharedCount tr m t (k+1) = sharedCount tr m t k := by
  rw [sharedCount]
  split
  · rename_i t' m' heq
    by_cases hm : m' = m ∧ t' = t
    · obtain ⟨rfl, rfl⟩ := hm; exact Or.inl ⟨heq, if_pos ⟨rfl, rfl⟩⟩
    · exact Or.inr (Or.inr (if_neg hm))
  · rename_i t' m' heq
    by_cases hm : m' = m ∧ t' = t
    · obtain ⟨rfl, rfl⟩ := hm; exact Or.inr (Or.inl ⟨heq, if_pos ⟨rfl, rfl⟩⟩)
    · exact Or.inr (Or.inr (if_neg hm))
  · exact Or.inr (Or.inr rfl)

theorem holds_zero {tr : Trace L M} {m : M} {t : Nat} {md : Mode} : ¬ Holds tr m t md 0 := by
  cases md
  · intro h; cases h
  · exact Nat.lt_irrefl 0

/-- a hold after event `k` was there before it or is granted by it -/
theorem holds_of_succ {tr : Trace L M} {m : M} {t : Nat} {md : Mode} {k : Nat} (h : Holds tr m t md (k+1)) :
    tr[k]? = some ⟨t, .acq m md⟩ ∨ Holds tr m t md k := by
  cases md with
  | excl =>
    rcases exclOwner_succ tr m k with ⟨t', hk, e⟩ | ⟨_, _, e⟩ | e
    · cases e.symm.trans h; exact Or.inl hk
    · cases e.symm.trans h
    · exact Or.inr (e.symm.trans h)
  | shared =>
    rcases sharedCount_succ tr m t k with ⟨hk, _⟩ | ⟨_, e⟩ | e
    · exact Or.inl hk
    · exact Or.inr (Nat.lt_of_lt_of_le (Nat.lt_of_lt_of_eq h e) (Nat.sub_le _ _))
    · exact Or.inr (Nat.lt_of_lt_of_eq h e)

/-- **C01 in use**: a lock is not granted while somebody holds it in a conflicting mode -/
theorem acquire_excludes {tr : Trace L M} (hwf : WF tr) {m : M} {a t1 t2 : Nat} {md1 md2 : Mode}
    (hacq : tr[a]? = some ⟨t2, .acq m md2⟩) (hh : Holds tr m t1 md1 a) (hc : md1 = .excl ∨ md2 = .excl) : False := by
  cases md2 with
  | excl =>
    obtain ⟨h1, h2⟩ := hwf.acqExcl a t2 m hacq
    cases md1 with
    | excl => cases h1.symm.trans hh
    | shared => exact Nat.lt_irrefl 0 (Nat.lt_of_lt_of_eq hh (h2 t1))
  | shared =>
    rcases hc with rfl | hc
    · cases (hwf.acqShared a t2 m hacq).symm.trans hh
    · cases hc

/-- in a well-formed trace a hold lasts until its holder releases it: nobody else's event ends it -/
theorem holds_succ {tr : Trace L M} (hwf : WF tr) {m : M} {t : Nat} {md : Mode} {k : Nat} (h : Holds tr m t md k)
    (hrel : tr[k]? ≠ some ⟨t, .rel m md⟩) : Holds tr m t md (k+1) := by
  cases md with
  | excl =>
    -- an acquire at `k` would be granted against `t`'s hold; a release at `k` is made by the owner, which is `t`
    rcases exclOwner_succ tr m k with ⟨t', hk, _⟩ | ⟨t', hk, _⟩ | e
    · exact (acquire_excludes hwf hk h (Or.inl rfl)).elim
    · cases (hwf.relExcl k t' m hk).symm.trans h; exact absurd hk hrel
    · exact e.trans h
  | shared =>
    rcases sharedCount_succ tr m t k with ⟨_, e⟩ | ⟨hk, _⟩ | e
    · exact Nat.lt_of_lt_of_eq (Nat.succ_pos _) e.symm
    · exact absurd hk hrel
    · exact Nat.lt_of_lt_of_eq h e.symm

/-- a holder acquired the lock at some earlier event and has held it ever since -/
theorem held_since (tr : Trace L M) (m : M) (t : Nat) (md : Mode) (j : Nat) (h : Holds tr m t md j) :
    ∃ a, a < j ∧ tr[a]? = some ⟨t, .acq m md⟩ ∧ ∀ k, a < k → k ≤ j → Holds tr m t md k := by
  induction j with
  | zero => exact absurd h holds_zero
  | succ j ih =>
    rcases holds_of_succ h with hacq | h'
    · exact ⟨j, Nat.lt_succ_self j, hacq, fun k hk1 hk2 => Nat.le_antisymm hk2 hk1 ▸ h⟩
    · obtain ⟨a, ha, hacq, hall⟩ := ih h'
      refine ⟨a, Nat.lt_succ_of_lt ha, hacq, fun k hk1 hk2 => ?_⟩
      rcases Nat.lt_or_eq_of_le hk2 with hlt | rfl
      · exact hall k hk1 (Nat.le_of_lt_succ hlt)
      · exact h

/-- from a point where `t1` holds the lock, either it still holds it or it has released it in between -/
theorem holds_or_released (tr : Trace L M) (hwf : WF tr) (m : M) (t1 : Nat) (md : Mode) (i : Nat)
    (hi : Holds tr m t1 md i) (a : Nat) (hia : i ≤ a) :
    Holds tr m t1 md a ∨ ∃ r, i ≤ r ∧ r < a ∧ tr[r]? = some ⟨t1, .rel m md⟩ := by
  induction hia with
  | refl => exact Or.inl hi
  | @step a hia ih =>
    rcases ih with h | ⟨r, h1, h2, h3⟩
    · by_cases hrel : tr[a]? = some ⟨t1, .rel m md⟩
      · exact Or.inr ⟨a, hia, Nat.lt_succ_self a, hrel⟩
      · exact Or.inl (holds_succ hwf h hrel)
    · exact Or.inr ⟨r, h1, Nat.lt_succ_of_lt h2, h3⟩

/-- the invariant form of C01: two different threads are never inside a lock together in conflicting modes.  Whoever of
the two got in last was granted the lock against the other's hold. -/
theorem no_conflicting_holders {tr : Trace L M} (hwf : WF tr) {m : M} {k t1 t2 : Nat} {md1 md2 : Mode} (hne : t1 ≠ t2)
    (h1 : Holds tr m t1 md1 k) (h2 : Holds tr m t2 md2 k) (hc : md1 = .excl ∨ md2 = .excl) : False := by
  induction k with
  | zero => exact holds_zero h1
  | succ k ih =>
    rcases holds_of_succ h1 with a1 | h1' <;> rcases holds_of_succ h2 with a2 | h2'
    · cases a1.symm.trans a2; exact hne rfl
    · exact acquire_excludes hwf a1 h2' hc.symm
    · exact acquire_excludes hwf a2 h1' hc
    · exact ih h1' h2'

/-- `no_conflicting_holders` read positively: two different threads are inside the lock together only if both are readers -/
theorem no_sharing_with_writer (tr : Trace L M) (hwf : WF tr) (m : M) (k t1 t2 : Nat) (md1 md2 : Mode) (hne : t1 ≠ t2)
    (h1 : Holds tr m t1 md1 k) (h2 : Holds tr m t2 md2 k) : md1 = .shared ∧ md2 = .shared := by
  cases md1 with
  | excl => exact (no_conflicting_holders hwf hne h1 h2 (Or.inl rfl)).elim
  | shared =>
    cases md2 with
    | excl => exact (no_conflicting_holders hwf hne h1 h2 (Or.inr rfl)).elim
    | shared => exact ⟨rfl, rfl⟩

/-- **lockset soundness**: two accesses by different threads, both made while holding the same lock, one of them
holding it exclusively, are ordered by happens-before. -/
theorem guarded_ordered (tr : Trace L M) (hwf : WF tr) (m : M) (i j t1 t2 : Nat) (md1 md2 : Mode) (x1 x2 : L) (w1 w2 : Bool)
    (hij : i < j) (hi : tr[i]? = some ⟨t1, .acc x1 w1⟩) (hj : tr[j]? = some ⟨t2, .acc x2 w2⟩) (hne : t1 ≠ t2)
    (h1 : Holds tr m t1 md1 i) (h2 : Holds tr m t2 md2 j) (hc : md1 = .excl ∨ md2 = .excl) : HB tr i j := by
  obtain ⟨a, haj, hacq, hall⟩ := held_since tr m t2 md2 j h2
  have hia : i < a := by
    rcases Nat.lt_trichotomy a i with h | rfl | h
    · exact (no_conflicting_holders hwf hne h1 (hall i h (Nat.le_of_lt hij)) hc).elim
    · cases hi.symm.trans hacq
    · exact h
  rcases holds_or_released tr hwf m t1 md1 i h1 a (Nat.le_of_lt hia) with h | ⟨r, hr1, hr2, hr3⟩
  · exact (acquire_excludes hwf hacq h hc).elim
  · have hir : i < r := by
      rcases Nat.lt_or_eq_of_le hr1 with h | rfl
      · exact h
      · cases hi.symm.trans hr3
    exact HB.trans (HB.po hir hi hr3) (HB.trans (HB.sw hr2 hr3 hacq hc) (HB.po haj hacq hj))

omit [DecidableEq M] in
/-- happens-before respects the order of the trace -/
theorem hb_lt (tr : Trace L M) {i j : Nat} (h : HB tr i j) : i < j := by
  induction h with
  | po h _ _ => exact h
  | sw h _ _ _ => exact h
  | fork h _ _ => exact h
  | join h _ _ => exact h
  | trans _ _ ih1 ih2 => exact Nat.lt_trans ih1 ih2

/-- a write made while every other accessor is not yet forked or already joined is ordered with all their accesses -/
theorem quiescent_ordered (tr : Trace L M) (hwf : WF tr) (k t : Nat) (x : L) (w : Bool)
    (hk : tr[k]? = some ⟨t, .acc x w⟩) (hq : Quiescent tr k t x)
    (j u : Nat) (w' : Bool) (hj : tr[j]? = some ⟨u, .acc x w'⟩) (hne : u ≠ t) :
    (k < j → HB tr k j) ∧ (j < k → HB tr j k) := by
  rcases hq j u w' hj hne with ⟨f, hkf, hf⟩ | ⟨n, hnk, hn⟩
  · have hfj := hwf.forked f t u hf j _ hj
    exact ⟨fun _ => HB.trans (HB.po hkf hk hf) (HB.fork hfj hf hj), fun h => absurd h (Nat.lt_asymm (Nat.lt_trans hkf hfj))⟩
  · have hjn := hwf.joined n t u hn j _ hj
    exact ⟨fun h => absurd h (Nat.lt_asymm (Nat.lt_trans hjn hnk)), fun _ => HB.trans (HB.join hjn hj hn) (HB.po hnk hn hk)⟩

/-- an access under a reader-writer rule holds the resource, and a write holds it exclusively -/
theorem okAt_guardedByRW {tr : Trace L M} {k t : Nat} {x : L} {w : Bool} {r : M}
    (h : (Rule.guardedByRW r).okAt tr k t x w) : ∃ md, Holds tr r t md k ∧ (w = true → md = .excl) := by
  rcases h with h | ⟨h, rfl⟩
  · exact ⟨.excl, h, fun _ => rfl⟩
  · exact ⟨.shared, h, fun hw => by cases hw⟩

/-- **C15 (generic part)**: a well-formed execution that follows a discipline has no data race. -/
theorem discipline_sound (tr : Trace L M) (hwf : WF tr) (d : L → Rule M) (hf : Follows tr d) : ¬ Race tr := by
  rintro ⟨i, j, t1, t2, x, w1, w2, hij, hi, hj, hne, hw, hnhb⟩
  apply hnhb
  rcases hf i t1 x w1 hi with p1 | f1
  · exact (p1 j t2 w2 hj (Ne.symm hne)).2
  rcases hf j t2 x w2 hj with p2 | f2
  · exact absurd (p2 i t1 w1 hi hne).1 (Nat.lt_asymm hij)
  generalize d x = r at f1 f2
  cases r with
  | guardedBy m => exact guarded_ordered tr hwf m i j t1 t2 .excl .excl x x w1 w2 hij hi hj hne f1 f2 (Or.inl rfl)
  | guardedByRW r =>
    -- one of the two accesses is a write, so one of the two holds is exclusive
    obtain ⟨md1, h1, e1⟩ := okAt_guardedByRW f1
    obtain ⟨md2, h2, e2⟩ := okAt_guardedByRW f2
    exact guarded_ordered tr hwf r i j t1 t2 md1 md2 x x w1 w2 hij hi hj hne h1 h2 (hw.imp e1 e2)
  | atomic => exact f1.elim
  | selfSynchronised => exact f1.elim
  | confinedTo t0 => exact absurd (f1.trans f2.symm) hne
  | immutableAfterPublication =>
    rcases hw with hw | hw
    · exact (quiescent_ordered tr hwf i t1 x w1 hi (f1 hw) j t2 w2 hj (Ne.symm hne)).1 hij
    · exact (quiescent_ordered tr hwf j t2 x w2 hj (f2 hw) i t1 w1 hi hne).2 hij

end Tulz.Drf

/-! ## from the table to executions -/
namespace Tulz.Drf

variable {F Fn : Type} [DecidableEq F] [DecidableEq Fn]

/-- a guard list accepted for lock member `m` of object `o` lists that very lock, in exclusive mode or — reader-writer rule,
read entry — in shared mode -/
theorem any_guardOk {m : F} {o : Obj F} {rw write : Bool} {gs : List (Guard F)}
    (h : gs.any (guardOk m o rw write) = true) :
    ⟨o, m, .excl⟩ ∈ gs ∨ (⟨o, m, .shared⟩ ∈ gs ∧ rw = true ∧ write = false) := by
  obtain ⟨⟨o', m', md⟩, hg, hok⟩ := List.any_eq_true.mp h
  simp only [guardOk, Bool.and_eq_true, Bool.or_eq_true, beq_iff_eq, Bool.not_eq_true'] at hok
  obtain ⟨⟨rfl, rfl⟩, rfl | ⟨⟨hrw, rfl⟩, hwr⟩⟩ := hok
  · exact Or.inl hg
  · exact Or.inr ⟨hg, hrw, hwr⟩

/-- the three ways in which an entry passes the check -/
theorem followsDiscipline_cases {d : F → TRule F Fn} {entryRole : Fn → Role} {excluded : List Nat} {e : Entry F Fn}
    (h : followsDiscipline d entryRole excluded e = true) :
    (∃ c ∈ e.conds, c ∈ excluded) ∨ e.init = true ∨
      ∃ f o, anchor d e.loc e.obj = some (f, o) ∧ ruleOk entryRole e o (d f) = true := by
  simp only [followsDiscipline, Bool.and_eq_true, Bool.or_eq_true, List.any_eq_true, List.contains_iff_mem] at h
  rcases h.2 with (hc | hi) | hrule
  · exact Or.inl hc
  · exact Or.inr (Or.inl hi)
  · cases hanc : anchor d e.loc e.obj with
    | none => rw [hanc] at hrule; cases hrule
    | some fo => rw [hanc] at hrule; exact Or.inr (Or.inr ⟨fo.1, fo.2, rfl, hrule⟩)

/-- **Instantiation**: if every entry of a table follows the discipline and every access event of an execution is an
instance of a table entry (in some world), the execution follows the induced concrete discipline. -/
theorem instance_follows (d : F → TRule F Fn) (entryRole : Fn → Role) (excluded : List Nat) (tbl : List (Entry F Fn))
    (w : World F) (tr : Trace (CLoc F) (CLoc F))
    (htbl : ∀ e ∈ tbl, followsDiscipline d entryRole excluded e = true)
    (hinst : ∀ k t x wr, tr[k]? = some ⟨t, .acc x wr⟩ → IsInstance d entryRole excluded tbl w tr k t x wr) :
    Follows tr (concreteDiscipline d w) := by
  intro k t x wr hk
  obtain ⟨e, ρ, hmem, hloc, hobj, hwr, hdecl, hconds, hinit, hguards, hanchor, hrole, himm⟩ := hinst k t x wr hk
  cases hi0 : e.init with
  | true => exact Or.inl (hinit hi0)
  | false =>
    rcases followsDiscipline_cases (htbl e hmem) with ⟨c, hc, hex⟩ | hi | ⟨f, o, hanc, hrule⟩
    · exact absurd hex (hconds c hc)
    · cases hi0.symm.trans hi
    · right
      -- the rule of `x` is the rule `d f` of the entry's anchor member, read in the world: `(d f).toRule w.thr (ρ o)`
      rw [hanchor f o hanc] at hrole himm
      rw [concreteDiscipline, hanchor f o hanc]
      generalize d f = r at hrule himm
      cases r with
      | guardedBy m =>
        simp only [ruleOk, Bool.and_eq_true] at hrule
        rcases any_guardOk hrule.2 with hg | ⟨_, hrw, _⟩
        · exact hguards _ hg
        · cases hrw
      | guardedByRW m =>
        simp only [ruleOk, Bool.and_eq_true] at hrule
        rcases any_guardOk hrule.2 with hg | ⟨hg, _, hw⟩
        · exact Or.inl (hguards _ hg)
        · refine Or.inr ⟨hguards _ hg, ?_⟩
          cases wr with
          | false => rfl
          | true => cases (hwr rfl).symm.trans hw
      | atomic => simp only [ruleOk, beq_iff_eq] at hrule; cases hdecl.symm.trans hrule
      | selfSynchronised => simp only [ruleOk, beq_iff_eq] at hrule; cases hdecl.symm.trans hrule
      | confinedTo role paths =>
        simp only [ruleOk, Bool.and_eq_true, beq_iff_eq] at hrule
        obtain ⟨⟨⟨_, hr1⟩, hr2⟩, _⟩ := hrule
        subst hr2
        exact hrole hr1
      | immutableAfterPublication ws => exact fun hw => himm ws rfl hw hi0
      | ownedState => cases hrule
      | none => cases hrule

end Tulz.Drf
