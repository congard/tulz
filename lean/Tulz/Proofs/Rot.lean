/-
  A list read cyclically from a start index, as a ring buffer reads its block from the head: `rot p d`.
  A write to the `j`-th element in that order is `List.set j` (`rot_set`); moving the start one step
  forwards or backwards moves one element from one end of `rot p d` to the other (`rot_succ`, `rot_pred`).
  The index arithmetic modulo the length is confined to `rot_get` and `add_mod_inj`.
-/
namespace Tulz
variable {β : Type}

/-- `d` read cyclically, starting at index `p` -/
def rot (p : Nat) (d : List β) : List β := d.drop p ++ d.take p

theorem rot_perm (p : Nat) (d : List β) : (rot p d).Perm d := by
  have := List.perm_append_comm (l₁ := d.drop p) (l₂ := d.take p)
  rwa [List.take_append_drop] at this

theorem rot_length (p : Nat) (d : List β) : (rot p d).length = d.length :=
  (rot_perm p d).length_eq

theorem rot_get {d : List β} {n p : Nat} (hn : d.length = n) (hp : p ≤ n) {i : Nat} (hi : i < n) :
    (rot p d)[i]? = d[(p + i) % n]? := by
  have hl : (d.drop p).length = n - p := by rw [List.length_drop, hn]
  unfold rot
  rcases Nat.lt_or_ge i (n - p) with h | h
  · rw [List.getElem?_append_left (hl ▸ h), List.getElem?_drop, Nat.mod_eq_of_lt (Nat.add_lt_of_lt_sub' h)]
  · -- `i = (n - p) + j` lies in `d.take p`
    obtain ⟨j, rfl⟩ := Nat.exists_eq_add_of_le h
    have hj : j < p := Nat.lt_of_add_lt_add_left (n := n - p) (by rwa [Nat.sub_add_cancel hp])
    rw [List.getElem?_append_right (hl ▸ Nat.le_add_right _ _), hl, Nat.add_sub_cancel_left,
      List.getElem?_take_of_lt hj, ← Nat.add_assoc, Nat.add_sub_cancel' hp, Nat.add_mod_left,
      Nat.mod_eq_of_lt (Nat.lt_of_lt_of_le hj hp)]

theorem add_mod_inj {n p i j : Nat} (hp : p ≤ n) (hi : i < n) (hj : j < n) (e : (p + i) % n = (p + j) % n) :
    i = j := by
  have back : ∀ i, i < n → ((p + i) % n + (n - p)) % n = i := by
    intro i hi
    rw [Nat.mod_add_mod, Nat.add_right_comm, Nat.add_sub_cancel' hp, Nat.add_mod_left, Nat.mod_eq_of_lt hi]
  rw [← back i hi, e, back j hj]

theorem rot_rot {d : List β} {n p k : Nat} (hn : d.length = n) (hp : p ≤ n) (hk : k ≤ n) :
    rot ((p + k) % n) d = rot k (rot p d) := by
  apply List.ext_getElem?
  intro i
  by_cases hi : i < n
  · have hm : ∀ a, a % n < n := fun a => Nat.mod_lt a (Nat.zero_lt_of_lt hi)
    rw [rot_get hn (Nat.le_of_lt (hm _)) hi, rot_get (by rw [rot_length, hn]) hk hi, rot_get hn hp (hm _),
      Nat.mod_add_mod, Nat.add_mod_mod, Nat.add_assoc]
  · rw [List.getElem?_eq_none (by rw [rot_length, hn]; exact Nat.le_of_not_lt hi),
      List.getElem?_eq_none (by rw [rot_length, rot_length, hn]; exact Nat.le_of_not_lt hi)]

theorem rot_set {d : List β} {n p j : Nat} (hn : d.length = n) (hp : p ≤ n) (hj : j < n) (s : β) :
    rot p (d.set ((p + j) % n) s) = (rot p d).set j s := by
  apply List.ext_getElem?
  intro i
  by_cases hi : i < n
  · rw [rot_get (by rw [List.length_set, hn]) hp hi, List.getElem?_set, List.getElem?_set, rot_get hn hp hi,
      rot_length, hn, if_pos hj, if_pos (Nat.mod_lt _ (Nat.zero_lt_of_lt hi))]
    by_cases e : j = i
    · rw [if_pos e, if_pos (by rw [e])]
    · rw [if_neg e, if_neg (fun e' => e (add_mod_inj hp hj hi e'))]
  · rw [List.getElem?_eq_none (by rw [rot_length, List.length_set, hn]; exact Nat.le_of_not_lt hi),
      List.getElem?_eq_none (by rw [List.length_set, rot_length, hn]; exact Nat.le_of_not_lt hi)]

theorem rot_set_self {d : List β} {n p : Nat} (hn : d.length = n) (hp : p < n) (s : β) :
    rot p (d.set p s) = (rot p d).set 0 s := by
  have := rot_set hn (Nat.le_of_lt hp) (Nat.zero_lt_of_lt hp) s
  rwa [Nat.add_zero, Nat.mod_eq_of_lt hp] at this

theorem rot_succ {d : List β} {n p : Nat} (hn : d.length = n) (hp : p < n) {a : β} {l : List β}
    (h : rot p d = a :: l) : rot ((p + 1) % n) d = l ++ [a] := by
  rw [rot_rot hn (Nat.le_of_lt hp) (Nat.zero_lt_of_lt hp), h]
  rfl

theorem rot_pred {d : List β} {n p : Nat} (hn : d.length = n) (hp : p < n) {a : β} {l : List β}
    (h : rot p d = l ++ [a]) : rot ((p + n - 1) % n) d = a :: l := by
  have hl : l.length = n - 1 := by
    have := congrArg List.length h
    rw [rot_length, hn, List.length_append] at this
    exact Nat.eq_sub_of_add_eq this.symm
  rw [Nat.add_sub_assoc (Nat.zero_lt_of_lt hp), rot_rot hn (Nat.le_of_lt hp) (Nat.sub_le n 1), h, rot,
    List.drop_left' hl, List.take_left' hl]
  rfl

end Tulz
