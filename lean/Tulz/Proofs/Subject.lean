import Tulz.Model.Subject
/-
  Lemmas about the Subject model (core Lean only).
  * `WF`      consistency of a world (`m_activeSubscriptions` = ids of `m_observers`, ids unique and never reused, …)
  * `Ext`     what a computation *inside* a notification round may do (nothing is destroyed, only live ids are called, …)
  * `InRound` the state such a computation reaches: consistent, same notify depth, `Ext`; proved for every level of the
              interpreter, from the single action to the nested `notify` (`Good`)
  The top-level operations, where observers are destroyed, are in `Tulz.Proofs.SubjectTop`.
-/
namespace Tulz.Subject
variable {α : Type}

/-! ### lists of observers -/

theorem mem_ids {l : List Obs} {i : Nat} : i ∈ ids l ↔ ∃ o ∈ l, o.id = i := List.mem_map

theorem ids_cons (o : Obs) (l : List Obs) : ids (o :: l) = o.id :: ids l := rfl
theorem ids_append (l₁ l₂ : List Obs) : ids (l₁ ++ l₂) = ids l₁ ++ ids l₂ := List.map_append

theorem ids_modify (p : Nat) (f : Obs → Obs) (hf : ∀ o, (f o).id = o.id) (l : List Obs) :
    ids (modify p f l) = ids l := by
  unfold ids modify
  rw [List.map_map]
  refine List.map_congr_left fun o _ => ?_
  show (if o.id == p then f o else o).id = o.id
  split
  · exact hf o
  · rfl

theorem mem_modify {p : Nat} {f : Obs → Obs} {l : List Obs} {o' : Obs} (h : o' ∈ modify p f l) :
    ∃ o ∈ l, o' = o ∨ o' = f o := by
  obtain ⟨o, ho, rfl⟩ := List.mem_map.1 h
  refine ⟨o, ho, ?_⟩
  split
  · exact Or.inr rfl
  · exact Or.inl rfl

theorem find?_some_id {l : List Obs} {i : Nat} {o : Obs} (h : l.find? (fun o => o.id == i) = some o) :
    o ∈ l ∧ o.id = i :=
  ⟨List.mem_of_find?_eq_some h, by simpa using List.find?_some h⟩

theorem find?_none_id {l : List Obs} {i : Nat} : l.find? (fun o => o.id == i) = none ↔ i ∉ ids l := by
  rw [List.find?_eq_none, mem_ids]
  constructor
  · intro h ⟨o, ho, hi⟩; exact h o ho (by simp [hi])
  · intro h o ho hi; exact h ⟨o, ho, by simpa using hi⟩

theorem find?_of_mem_nodup {l : List Obs} (hnd : (ids l).Nodup) {o : Obs} (ho : o ∈ l) :
    l.find? (fun x => x.id == o.id) = some o := by
  induction l with
  | nil => cases ho
  | cons x l ih =>
    rw [ids_cons, List.nodup_cons] at hnd
    rw [List.find?_cons]
    rcases List.mem_cons.1 ho with rfl | hol
    · rw [beq_self_eq_true]
    · have hne : (x.id == o.id) = false := beq_false_of_ne fun e => hnd.1 (e ▸ mem_ids.2 ⟨o, hol, rfl⟩)
      rw [hne]
      exact ih hnd.2 hol

/-- removing the first observer with id `i` removes `i` from the ids -/
theorem ids_eraseP {l : List Obs} {i : Nat} {o : Obs} (h : l.find? (fun o => o.id == i) = some o) :
    (ids l).Perm (i :: ids (l.eraseP (fun o => o.id == i))) := by
  obtain ⟨ho, l₁, l₂, rfl, hn⟩ := List.find?_eq_some_iff_append.1 h
  rw [List.eraseP_append_right _ (fun b hb => by simpa using hn b hb), List.eraseP_cons_of_pos (p := fun o : Obs => o.id == i) ho,
      ids_append, ids_append, ids_cons, eq_of_beq ho]
  exact List.perm_middle

theorem mem_insertSet {i j : Nat} {l : List Nat} : j ∈ insertSet i l ↔ j = i ∨ j ∈ l := by
  unfold insertSet
  split
  · next h => exact ⟨Or.inr, fun h' => h'.elim (fun e => e ▸ h) id⟩
  · exact List.mem_cons

theorem mem_eraseSet {i j : Nat} {l : List Nat} : j ∈ eraseSet i l ↔ j ∈ l ∧ j ≠ i := by
  simp [eraseSet]

theorem eraseSet_of_not_mem {i : Nat} {l : List Nat} (h : i ∉ l) : eraseSet i l = l :=
  List.filter_eq_self.2 fun _ hj => bne_iff_ne.2 fun e => h (e ▸ hj)

/-! ### well-formedness -/

def Alive (w : World α) (i : Nat) : Prop := i ∈ ids w.obs ∨ i ∈ ids w.grave

/-- `i` is subscribed and its observer is valid: it may still be called -/
def Live (w : World α) (i : Nat) : Prop := i ∈ w.active ∧ ∃ o ∈ w.obs, o.id = i ∧ o.valid = true

structure WF (w : World α) : Prop where
  /-- `m_activeSubscriptions` holds exactly the ids of `m_observers` -/
  act : ∀ i, i ∈ w.active ↔ i ∈ ids w.obs
  /-- ids are unique among all existing observers -/
  nd : (ids w.obs ++ ids w.grave).Nodup
  /-- ids are never reused -/
  lt : ∀ i, Alive w i → i < w.counter
  /-- removed observers are parked only while a notification is in progress -/
  g0 : w.depth = 0 → w.grave = []
  /-- the three members of a handle of this subject belong together -/
  hs : ∀ h ∈ w.handles, h.subj = some w.sid → h.obs = h.id

theorem alive_iff {w : World α} {i : Nat} : Alive w i ↔ i ∈ w.alive := List.mem_append.symm

theorem Live.alive {w : World α} {i : Nat} (h : Live w i) : Alive w i :=
  let ⟨o, ho, hid, _⟩ := h.2
  Or.inl (mem_ids.2 ⟨o, ho, hid⟩)

theorem WF.init (sid : Nat) : WF ({ sid := sid } : World α) :=
  ⟨fun i => by simp [ids], by simp [ids], fun i h => by simp [Alive, ids] at h, fun _ => rfl, fun h hh => by simp at hh⟩

theorem WF.nd_obs {w : World α} (h : WF w) : (ids w.obs).Nodup := (List.nodup_append.1 h.nd).1

theorem WF.emit {w : World α} (h : WF w) (e : Ev α) : WF (w.emit e) := ⟨h.act, h.nd, h.lt, h.g0, h.hs⟩

theorem WF.setHandles {w : World α} (hw : WF w) (l : List Handle)
    (hl : ∀ h ∈ l, h.subj = some w.sid → h.obs = h.id) : WF ({ w with handles := l } : World α) :=
  ⟨hw.act, hw.nd, hw.lt, hw.g0, hl⟩

theorem WF.bump {w : World α} (hw : WF w) : WF ({ w with depth := w.depth + 1 } : World α) :=
  ⟨hw.act, hw.nd, hw.lt, fun h => absurd h (Nat.succ_ne_zero _), hw.hs⟩

theorem WF.lookup_obs {w : World α} (h : WF w) {o : Obs} (ho : o ∈ w.obs) : w.lookup o.id = some o :=
  find?_of_mem_nodup ((ids_append w.obs w.grave).symm ▸ h.nd) (List.mem_append_left _ ho)

/-- every existing observer is found through its pointer -/
theorem lookup_alive {w : World α} {i : Nat} : Alive w i ↔ ∃ o, w.lookup i = some o := by
  rw [← Option.ne_none_iff_exists', Ne, World.lookup, find?_none_id, Classical.not_not, ids_append]
  exact List.mem_append.symm

theorem lookup_some {w : World α} {i : Nat} {o : Obs} (h : w.lookup i = some o) : o.id = i ∧ Alive w i :=
  ⟨(find?_some_id h).2, lookup_alive.2 ⟨o, h⟩⟩

theorem WF.active_lookup {w : World α} (h : WF w) {i : Nat} (hi : i ∈ w.active) :
    ∃ o ∈ w.obs, o.id = i ∧ w.lookup i = some o := by
  obtain ⟨o, ho, rfl⟩ := mem_ids.1 ((h.act i).1 hi)
  exact ⟨o, ho, rfl, h.lookup_obs ho⟩

/-- a cleared slot keeps the handle table consistent -/
theorem WF.hs_set_null {w : World α} (hw : WF w) (hi : Nat) :
    ∀ h ∈ w.handles.set hi Handle.null, h.subj = some w.sid → h.obs = h.id := by
  intro h hm hs
  rcases List.mem_or_eq_of_mem_set hm with hm | rfl
  · exact hw.hs h hm hs
  · rfl

/-! ### the monitor -/

theorem Mon.run_append (m : Mon) (a b : List (Ev α)) :
    m.run (a ++ b) = (m.run a).bind (fun m' => m'.run b) := by
  induction a generalizing m with
  | nil => rfl
  | cons e a ih =>
    simp only [List.cons_append, Mon.run]
    cases m.step e with
    | none => rfl
    | some m' => exact ih m'

theorem Mon.step_freed {m m' : Mon} {e : Ev α} (h : m.step e = some m') {j : Nat} (hj : j ∈ m.freed) : j ∈ m'.freed := by
  cases e <;> simp only [Mon.step] at h
  · split at h <;> cases h; exact hj
  · split at h <;> cases h; exact List.mem_cons_of_mem _ hj
  · split at h <;> cases h; exact hj
  · split at h
    · split at h <;> cases h; exact hj
    · cases h
  · cases h; exact hj

/-- what has been destroyed stays destroyed -/
theorem Mon.run_freed (es : List (Ev α)) {m m' : Mon} (h : m.run es = some m') {j : Nat} (hj : j ∈ m.freed) : j ∈ m'.freed := by
  induction es generalizing m with
  | nil => cases h; exact hj
  | cons e es ih =>
    simp only [Mon.run] at h
    cases hs : m.step e with
    | none => rw [hs] at h; cases h
    | some m₁ => rw [hs] at h; exact ih h (Mon.step_freed hs hj)

/-- the observer an event dereferences -/
def touched : Ev α → Option Nat
  | .touch i => some i
  | .enter i _ => some i
  | .exit i => some i
  | _ => none

/-- a trace segment that destroys nothing, is balanced, and is accepted by the monitor from every state whose
    destroyed set avoids the observers it touches — and leaves that state unchanged -/
def Acc (evs : List (Ev α)) : Prop :=
  ∀ m : Mon, (∀ e ∈ evs, ∀ i, touched e = some i → i ∉ m.freed) → m.run evs = some m

theorem Acc.nil : Acc ([] : List (Ev α)) := fun _ _ => rfl

theorem Acc.touch (i : Nat) : Acc ([.touch i] : List (Ev α)) := by
  intro m h
  have : i ∉ m.freed := h (.touch i) (by simp) i rfl
  simp [Mon.run, Mon.step, this]

theorem Acc.caught : Acc ([.caught] : List (Ev α)) := by
  intro m _; simp [Mon.run, Mon.step]

theorem Acc.append {a b : List (Ev α)} (ha : Acc a) (hb : Acc b) : Acc (a ++ b) := by
  intro m h
  rw [Mon.run_append, ha m (fun e he => h e (List.mem_append_left _ he))]
  exact hb m (fun e he => h e (List.mem_append_right _ he))

theorem Acc.call {evs : List (Ev α)} (i : Nat) (a : α) (h : Acc evs) : Acc (.enter i a :: (evs ++ [.exit i])) := by
  intro m hm
  have hi : i ∉ m.freed := hm (.enter i a) (by simp) i rfl
  have h1 : (Mon.run { m with stack := i :: m.stack } evs) = some { m with stack := i :: m.stack } :=
    h _ (fun e he => hm e (by simp [he]))
  simp only [Mon.run, Mon.step, hi, if_false]
  rw [Mon.run_append, h1]
  simp [Mon.run, Mon.step, hi]

theorem Acc.no_free {evs : List (Ev α)} (h : Acc evs) (i : Nat) : Ev.free i ∉ evs := by
  intro hm
  obtain ⟨a, b, rfl⟩ := List.append_of_mem hm
  -- run from the empty monitor: the destroyed set would have to be empty again at the end
  have h0 := h {} (fun _ _ _ _ => List.not_mem_nil)
  rw [Mon.run_append] at h0
  cases h1 : Mon.run {} a with
  | none => rw [h1] at h0; cases h0
  | some m₁ =>
    rw [h1] at h0
    simp only [Option.bind, Mon.run] at h0
    cases h2 : m₁.step (Ev.free i : Ev α) with
    | none => rw [h2] at h0; cases h0
    | some m₂ =>
      rw [h2] at h0
      have hi : i ∈ m₂.freed := by
        simp only [Mon.step] at h2
        split at h2 <;> cases h2
        exact List.mem_cons_self
      exact absurd (Mon.run_freed b h0 hi) List.not_mem_nil

/-! ### what a computation inside a round may do -/

structure Ext (w w' : World α) : Prop where
  sid : w'.sid = w.sid
  counter : w.counter ≤ w'.counter
  /-- nothing is destroyed -/
  alive : ∀ i, Alive w i → Alive w' i
  /-- new observers get new ids -/
  fresh : ∀ i, Alive w' i → Alive w i ∨ w.counter ≤ i
  /-- an id that is unsubscribed or invalid stays so -/
  live : ∀ i, i < w.counter → Live w' i → Live w i
  ub : w'.ub = w.ub
  tr : ∃ evs, w'.trace = w.trace ++ evs ∧ Acc evs ∧
        (∀ e ∈ evs, ∀ i, touched e = some i → Alive w' i) ∧
        (∀ i a, Ev.enter i a ∈ evs → Live w i ∨ w.counter ≤ i)

/-- a step that emits no event -/
theorem Ext.silent {w w' : World α} (hs : w'.sid = w.sid) (hc : w.counter ≤ w'.counter) (ha : ∀ i, Alive w i → Alive w' i)
    (hf : ∀ i, Alive w' i → Alive w i ∨ w.counter ≤ i) (hl : ∀ i, i < w.counter → Live w' i → Live w i)
    (hu : w'.ub = w.ub) (ht : w'.trace = w.trace) : Ext w w' :=
  ⟨hs, hc, ha, hf, hl, hu, [], ht.trans (List.append_nil _).symm, Acc.nil,
   fun _ h => absurd h List.not_mem_nil, fun _ _ h => absurd h List.not_mem_nil⟩

theorem Ext.refl (w : World α) : Ext w w :=
  .silent rfl (Nat.le_refl _) (fun _ h => h) (fun _ h => Or.inl h) (fun _ _ h => h) rfl rfl

/-- who may be called, read back from a later state to an earlier one -/
theorem callable_mono {w₁ w₂ : World α} (hc : w₁.counter ≤ w₂.counter) (hl : ∀ i, i < w₁.counter → Live w₂ i → Live w₁ i)
    {i : Nat} (h : Live w₂ i ∨ w₂.counter ≤ i) : Live w₁ i ∨ w₁.counter ≤ i := by
  by_cases hi : i < w₁.counter
  · exact h.elim (fun h => Or.inl (hl i hi h)) (fun h => absurd (Nat.lt_of_lt_of_le hi hc) (Nat.not_lt.2 h))
  · exact Or.inr (Nat.le_of_not_lt hi)

theorem Ext.trans {w₁ w₂ w₃ : World α} (h₁ : Ext w₁ w₂) (h₂ : Ext w₂ w₃) : Ext w₁ w₃ := by
  obtain ⟨e₁, t₁, a₁, al₁, en₁⟩ := h₁.tr
  obtain ⟨e₂, t₂, a₂, al₂, en₂⟩ := h₂.tr
  refine ⟨h₂.sid.trans h₁.sid, Nat.le_trans h₁.counter h₂.counter, fun i h => h₂.alive i (h₁.alive i h), ?_, ?_,
          h₂.ub.trans h₁.ub, ⟨e₁ ++ e₂, by rw [t₂, t₁, List.append_assoc], a₁.append a₂, ?_, ?_⟩⟩
  · intro i h
    rcases h₂.fresh i h with h | h
    · exact h₁.fresh i h
    · exact Or.inr (Nat.le_trans h₁.counter h)
  · intro i hi h
    exact h₁.live i hi (h₂.live i (Nat.lt_of_lt_of_le hi h₁.counter) h)
  · intro e he i ht
    rcases List.mem_append.1 he with he | he
    · exact h₂.alive i (al₁ e he i ht)
    · exact al₂ e he i ht
  · intro i a he
    rcases List.mem_append.1 he with he | he
    · exact en₁ i a he
    · exact callable_mono h₁.counter h₁.live (en₂ i a he)

/-- the notify depth plays no part, on either side -/
theorem Ext.of_setDepth {w w' : World α} {d : Nat} (h : Ext ({ w with depth := d } : World α) w') : Ext w w' :=
  ⟨h.sid, h.counter, h.alive, h.fresh, h.live, h.ub, h.tr⟩

theorem Ext.setDepth {w w' : World α} (h : Ext w w') (d : Nat) : Ext w ({ w' with depth := d } : World α) :=
  ⟨h.sid, h.counter, h.alive, h.fresh, h.live, h.ub, h.tr⟩

/-- the state a computation inside a notification round reaches from `w` -/
structure InRound (w w' : World α) : Prop where
  wf : WF w'
  depth : w'.depth = w.depth
  ext : Ext w w'

theorem InRound.refl {w : World α} (hw : WF w) : InRound w w := ⟨hw, rfl, Ext.refl w⟩

theorem InRound.trans {w₁ w₂ w₃ : World α} (h₁ : InRound w₁ w₂) (h₂ : InRound w₂ w₃) : InRound w₁ w₃ :=
  ⟨h₂.wf, h₂.depth.trans h₁.depth, h₁.ext.trans h₂.ext⟩

theorem InRound.setHandles {w u : World α} (h : InRound w u) (l : List Handle)
    (hl : ∀ h ∈ l, h.subj = some u.sid → h.obs = h.id) : InRound w ({ u with handles := l } : World α) :=
  ⟨h.wf.setHandles l hl, h.depth, h.ext.sid, h.ext.counter, h.ext.alive, h.ext.fresh, h.ext.live, h.ext.ub, h.ext.tr⟩

/-- a transformer that may run inside a notification round -/
def Good (f : World α → World α) : Prop :=
  ∀ w, WF w → 0 < w.depth → WF (f w) ∧ (f w).depth = w.depth ∧ Ext w (f w)

theorem Good.inRound {f : World α → World α} (hf : Good f) {w : World α} (hw : WF w) (hd : 0 < w.depth) : InRound w (f w) :=
  have ⟨a, b, c⟩ := hf w hw hd
  ⟨a, b, c⟩

theorem Good.of_inRound {f : World α → World α} (h : ∀ w, WF w → 0 < w.depth → InRound w (f w)) : Good f :=
  fun w hw hd => ⟨(h w hw hd).wf, (h w hw hd).depth, (h w hw hd).ext⟩

theorem Good.id : Good (fun w : World α => w) := .of_inRound fun _ hw _ => .refl hw

theorem Good.comp {f g : World α → World α} (hf : Good f) (hg : Good g) : Good (fun w => g (f w)) :=
  .of_inRound fun _ hw hd =>
    have h := hf.inRound hw hd
    h.trans (hg.inRound h.wf (h.depth ▸ hd))

/-! #### primitives -/

theorem InRound.emit {w : World α} (hw : WF w) {e : Ev α} (hacc : Acc [e]) (ht : ∀ i, touched e = some i → Alive w i)
    (hne : ∀ i a, e ≠ .enter i a) : InRound w (w.emit e) :=
  ⟨hw.emit e, rfl, rfl, Nat.le_refl _, fun _ h => h, fun _ h => Or.inl h, fun _ _ h => h, rfl,
   ⟨[e], rfl, hacc, fun _ he => List.mem_singleton.1 he ▸ ht, fun i a he => absurd (List.mem_singleton.1 he).symm (hne i a)⟩⟩

theorem emit_touch {w : World α} (hw : WF w) {p : Nat} (hp : Alive w p) : InRound w (w.emit (.touch p)) :=
  .emit hw (Acc.touch p) (fun _ h => Option.some.inj h ▸ hp) nofun

theorem emit_caught {w : World α} (hw : WF w) : InRound w (w.emit .caught) :=
  .emit hw Acc.caught nofun nofun

/-- what a member call through an `Observer*` (`mute`, `unmute`, `invalidate`) does to the object: the id stays, and an
    invalid observer does not become valid -/
def NoRevive (f : Obs → Obs) : Prop := ∀ o, (f o).id = o.id ∧ ((f o).valid = true → o.valid = true)

theorem noRevive_setMuted (b : Bool) : NoRevive (setMuted b) := fun _ => ⟨rfl, id⟩
theorem noRevive_setInvalid : NoRevive setInvalid := fun _ => ⟨rfl, nofun⟩

/-- a write through a pointer to an existing observer -/
theorem poke_inRound {w : World α} (hw : WF w) {p : Nat} (hp : Alive w p) {f : Obs → Obs} (hf : NoRevive f) :
    InRound w (w.poke p f) := by
  obtain ⟨o, hl⟩ := lookup_alive.1 hp
  have e : w.poke p f = { w.emit (.touch p) with obs := modify p f w.obs, grave := modify p f w.grave } := by
    unfold World.poke
    simp only [show (w.emit (.touch p)).lookup p = some o from hl]
    rfl
  rw [e]
  refine (emit_touch hw hp).trans ?_
  -- the write changes no id: the same observers exist, and who was invalid still is
  have io := ids_modify p f (fun o => (hf o).1) w.obs
  have ig := ids_modify p f (fun o => (hf o).1) w.grave
  have al : ∀ i, Alive ({ w.emit (.touch p) with obs := modify p f w.obs, grave := modify p f w.grave } : World α) i ↔ Alive w i := by
    intro i; unfold Alive; simp only [io, ig]
  refine ⟨⟨?_, ?_, fun i h => hw.lt i ((al i).1 h), ?_, hw.hs⟩, rfl,
          .silent rfl (Nat.le_refl _) (fun i h => (al i).2 h) (fun i h => Or.inl ((al i).1 h)) ?_ rfl rfl⟩
  · intro i; show i ∈ w.active ↔ i ∈ ids (modify p f w.obs); rw [io]; exact hw.act i
  · show (ids (modify p f w.obs) ++ ids (modify p f w.grave)).Nodup; rw [io, ig]; exact hw.nd
  · intro h; show modify p f w.grave = []; rw [hw.g0 h]; rfl
  · rintro i _ ⟨ha, o', ho', hi', hv'⟩
    obtain ⟨o₀, ho₀, rfl | rfl⟩ := mem_modify ho'
    · exact ⟨ha, o', ho₀, hi', hv'⟩
    · exact ⟨ha, o₀, ho₀, (hf o₀).1 ▸ hi', (hf o₀).2 hv'⟩

theorem subscribeSlot_eq (w : World α) (script : List Action) (m0 : Bool) :
    w.subscribeSlot script m0 =
      { w with obs := ⟨w.counter, true, m0, script⟩ :: w.obs, active := insertSet w.counter w.active,
               counter := w.counter + 1, handles := w.handles ++ [⟨some w.counter, some w.sid, some w.counter⟩] } := rfl

theorem subscribeSlot_inRound {w : World α} (hw : WF w) (script : List Action) (m0 : Bool) :
    InRound w (w.subscribeSlot script m0) := by
  have hc : ¬ Alive w w.counter := fun h => Nat.lt_irrefl _ (hw.lt _ h)
  -- the new observer takes the id `counter`, which nothing existing has
  have al : ∀ i, Alive (w.subscribeSlot script m0) i ↔ i = w.counter ∨ Alive w i := by
    intro i
    show (i ∈ w.counter :: ids w.obs ∨ _) ↔ _
    rw [List.mem_cons, or_assoc]
    rfl
  refine ⟨⟨?_, ?_, ?_, hw.g0, ?_⟩, rfl, .silent rfl (Nat.le_succ _) (fun i h => (al i).2 (Or.inr h)) ?_ ?_ rfl rfl⟩
  · intro i
    show i ∈ insertSet w.counter w.active ↔ i ∈ w.counter :: ids w.obs
    rw [mem_insertSet, List.mem_cons, hw.act]
  · show (w.counter :: ids w.obs ++ ids w.grave).Nodup
    rw [List.cons_append, List.nodup_cons]
    exact ⟨fun h => hc (List.mem_append.1 h), hw.nd⟩
  · intro i h
    show i < w.counter + 1
    rcases (al i).1 h with rfl | h
    · exact Nat.lt_succ_self _
    · exact Nat.lt_succ_of_lt (hw.lt i h)
  · intro h hh
    rcases List.mem_append.1 (show h ∈ w.handles ++ [_] from hh) with h1 | h1
    · exact hw.hs h h1
    · cases List.mem_singleton.1 h1; exact fun _ => rfl
  · intro i h
    exact ((al i).1 h).elim (fun e => Or.inr (Nat.le_of_eq e.symm)) Or.inl
  · rintro i hi ⟨ha, o, ho, hid, hv⟩
    rcases mem_insertSet.1 (show i ∈ insertSet w.counter w.active from ha) with rfl | ha
    · exact absurd hi (Nat.lt_irrefl _)
    · rcases List.mem_cons.1 (show o ∈ (⟨w.counter, true, m0, script⟩ : Obs) :: w.obs from ho) with rfl | ho
      · exact absurd (hid ▸ hi) (Nat.lt_irrefl _)
      · exact ⟨ha, o, ho, hid, hv⟩

theorem unsubById_none {w : World α} {i : Nat} (hf : w.obs.find? (fun o => o.id == i) = none) :
    w.unsubscribeById i = { w with active := eraseSet i w.active } := by
  unfold World.unsubscribeById; rw [hf]

theorem unsubById_round_eq {w : World α} {i : Nat} {o : Obs} (hf : w.obs.find? (fun o => o.id == i) = some o)
    (hd : 0 < w.depth) :
    w.unsubscribeById i =
      { w with obs := w.obs.eraseP (fun o => o.id == i), grave := o :: w.grave, active := eraseSet i w.active } := by
  unfold World.unsubscribeById; rw [hf]; simp only [if_pos hd]

theorem unsubById_top_eq {w : World α} {i : Nat} {o : Obs} (hf : w.obs.find? (fun o => o.id == i) = some o)
    (hd : w.depth = 0) :
    w.unsubscribeById i =
      ({ w with obs := w.obs.eraseP (fun o => o.id == i), active := eraseSet i w.active } : World α).emit (.free o.id) := by
  unfold World.unsubscribeById; rw [hf]; simp only [hd, Nat.lt_irrefl, if_false]

/-- what `unsubscribeById` does to `m_activeSubscriptions` and `m_observers`, and what it leaves alone -/
theorem unsubById_frame (w : World α) (i : Nat) :
    (w.unsubscribeById i).active = eraseSet i w.active ∧
    (w.unsubscribeById i).obs = w.obs.eraseP (fun o => o.id == i) ∧
    (w.unsubscribeById i).handles = w.handles ∧ (w.unsubscribeById i).sid = w.sid := by
  unfold World.unsubscribeById
  split
  · next hf => exact ⟨rfl, (List.eraseP_of_forall_not (List.find?_eq_none.1 hf)).symm, rfl, rfl⟩
  · split <;> exact ⟨rfl, rfl, rfl, rfl⟩

/-- `unsubscribeById` while a notification is in progress: the observer is parked -/
theorem unsubById_inRound {w : World α} (hw : WF w) (hd : 0 < w.depth) (i : Nat) : InRound w (w.unsubscribeById i) := by
  cases hf : w.obs.find? (fun o => o.id == i) with
  | none =>
    -- `i` is not subscribed: nothing changes
    have hi : i ∉ w.active := fun h => find?_none_id.1 hf ((hw.act i).1 h)
    rw [unsubById_none hf, eraseSet_of_not_mem hi]
    exact .refl hw
  | some o =>
    rw [unsubById_round_eq hf hd]
    have hp := ids_eraseP hf
    -- the observer moves from `obs` to `grave`: the same observers exist
    have hal : (ids (w.obs.eraseP (fun o => o.id == i)) ++ ids (o :: w.grave)).Perm w.alive := by
      rw [ids_cons, (find?_some_id hf).2]
      exact List.perm_middle.trans (hp.symm.append_right _)
    have al : ∀ j, Alive ({ w with obs := w.obs.eraseP (fun o => o.id == i), grave := o :: w.grave,
                                   active := eraseSet i w.active } : World α) j ↔ Alive w j :=
      fun j => alive_iff.trans (hal.mem_iff.trans alive_iff.symm)
    have hi : i ∉ ids (w.obs.eraseP (fun o => o.id == i)) := (List.nodup_cons.1 (hp.nodup_iff.1 hw.nd_obs)).1
    refine ⟨⟨?_, hal.nodup_iff.2 hw.nd, fun j h => hw.lt j ((al j).1 h), fun h => absurd h (Nat.pos_iff_ne_zero.1 hd), hw.hs⟩,
            rfl, .silent rfl (Nat.le_refl _) (fun j h => (al j).2 h) (fun j h => Or.inl ((al j).1 h)) ?_ rfl rfl⟩
    · intro j
      show j ∈ eraseSet i w.active ↔ _
      rw [mem_eraseSet, hw.act, hp.mem_iff, List.mem_cons]
      exact ⟨fun h => h.1.resolve_left h.2, fun h => ⟨Or.inr h, fun e => hi (e ▸ h)⟩⟩
    · rintro j _ ⟨h1, o', ho', h3⟩
      exact ⟨(mem_eraseSet.1 h1).1, o', List.mem_of_mem_eraseP ho', h3⟩

theorem validId?_some {w : World α} {h : Handle} {i : Nat} (hv : w.validId? h = some i) :
    h.subj = some w.sid ∧ h.id = some i ∧ i ∈ w.active := by
  unfold World.validId? at hv
  split at hv
  · next hs =>
    split at hv
    · next j hid =>
      split at hv
      · next hj => cases hv; exact ⟨hs, hid, hj⟩
      · cases hv
    · cases hv
  · cases hv

/-- `subject.unsubscribe(handles[hi])`: nothing changes (no such slot, or the handle is rejected), or the id of a valid
    handle is unsubscribed and the slot cleared -/
theorem unsubSlot_cases (w : World α) (hi : Nat) :
    (w.unsubSlot hi).1 = w ∨ ∃ i ∈ w.active, (w.unsubSlot hi).1 =
      { w.unsubscribeById i with handles := (w.unsubscribeById i).handles.set hi Handle.null } := by
  unfold World.unsubSlot
  cases w.handles[hi]? with
  | none => exact Or.inl rfl
  | some h =>
    simp only []
    unfold World.unsubscribe
    cases hv : w.validId? h with
    | none => exact Or.inl rfl
    | some i => exact Or.inr ⟨i, (validId?_some hv).2.2, rfl⟩

theorem unsubSlot_inRound {w : World α} (hw : WF w) (hd : 0 < w.depth) (hi : Nat) : InRound w (w.unsubSlot hi).1 := by
  rcases unsubSlot_cases w hi with e | ⟨i, _, e⟩ <;> rw [e]
  · exact .refl hw
  · have h := unsubById_inRound hw hd i
    exact h.setHandles _ (h.wf.hs_set_null hi)

/-- `try { subject.unsubscribe(handles[hi]); } catch (std::invalid_argument&) {…}` -/
theorem unsubSlot_catch_inRound {w : World α} (hw : WF w) (hd : 0 < w.depth) (hi : Nat) :
    InRound w (if (w.unsubSlot hi).2 then (w.unsubSlot hi).1.emit .caught else (w.unsubSlot hi).1) := by
  have h := unsubSlot_inRound hw hd hi
  split
  · exact h.trans (emit_caught h.wf)
  · exact h

/-- a guarded write through a handle reaches an observer that is subscribed -/
theorem pokeSlot_cases {w : World α} (hw : WF w) (hi : Nat) (f : Obs → Obs) :
    w.pokeSlot hi f = w ∨ ∃ p ∈ w.active, w.pokeSlot hi f = w.poke p f := by
  unfold World.pokeSlot
  cases hh : w.handles[hi]? with
  | none => exact Or.inl rfl
  | some h =>
    simp only []
    cases hval : w.validId? h with
    | none => exact Or.inl rfl
    | some i =>
      cases hob : h.obs with
      | none => exact Or.inl rfl
      | some p =>
        obtain ⟨hs, hid, hact⟩ := validId?_some hval
        -- the handle is one of this subject's, so its observer pointer and its id agree
        have hpi : some p = some i := (hob.symm.trans (hw.hs h (List.mem_of_getElem? hh) hs)).trans hid
        exact Or.inr ⟨p, Option.some.inj hpi ▸ hact, rfl⟩

theorem pokeSlot_inRound {w : World α} (hw : WF w) (hi : Nat) {f : Obs → Obs} (hf : NoRevive f) :
    InRound w (w.pokeSlot hi f) := by
  rcases pokeSlot_cases hw hi f with e | ⟨p, hp, e⟩ <;> rw [e]
  · exact .refl hw
  · exact poke_inRound hw (Or.inl ((hw.act p).1 hp)) hf

/-! #### the interpreter, level by level -/

section round
variable (lib : Nat → List Action)

/-- `(*observer)(args...)` on an observer that exists -/
theorem invoke_eq (inner : World α → α → World α) {w : World α} {i : Nat} {o : Obs} (hl : w.lookup i = some o) (a : α) :
    invoke lib inner w i a =
      if !o.muted && o.valid then (runScript lib inner i a ((w.emit (.touch i)).emit (.enter i a)) o.script).emit (.exit i)
      else w.emit (.touch i) := by
  unfold invoke
  simp only [show (w.emit (.touch i)).lookup i = some o from hl]

/-- the check after the call, on an id that is still subscribed -/
theorem reap_eq {w : World α} {i : Nat} {o : Obs} (hi : i ∈ w.active) (hl : w.lookup i = some o) :
    reap w i = if !o.valid then (w.emit (.touch i)).unsubscribeById i else w.emit (.touch i) := by
  unfold reap
  simp only [if_pos hi, show (w.emit (.touch i)).lookup i = some o from hl]

/-- removed (or never subscribed): skipped, nothing happens at all -/
theorem turn_skipped (inner : World α → α → World α) (w : World α) (i : Nat) (a : α) (hi : i ∉ w.active) :
    turn lib inner w i a = w := by
  unfold turn; rw [if_neg hi]

theorem turn_active (inner : World α → α → World α) {w : World α} {i : Nat} (hi : i ∈ w.active) (a : α) :
    turn lib inner w i a = reap (invoke lib inner w i a) i := by
  unfold turn callOne; rw [if_pos hi]

/-- a callback of a live observer: `enter`, the events of its script, `exit` -/
theorem InRound.call {w w' : World α} {i : Nat} {a : α} (hi : Live w i) (h : InRound (w.emit (.enter i a)) w') :
    InRound w (w'.emit (.exit i)) := by
  obtain ⟨evs, ht, hacc, halv, hent⟩ := h.ext.tr
  have hal : Alive w' i := h.ext.alive i hi.alive
  refine ⟨h.wf.emit _, h.depth, ⟨h.ext.sid, h.ext.counter, h.ext.alive, h.ext.fresh, h.ext.live, h.ext.ub,
    ⟨.enter i a :: (evs ++ [.exit i]), ?_, Acc.call i a hacc, ?_, ?_⟩⟩⟩
  · show w'.trace ++ [.exit i] = _
    rw [ht]
    show (w.trace ++ [.enter i a]) ++ evs ++ [.exit i] = _
    rw [List.append_assoc, List.append_assoc]
    rfl
  · intro e he j hj
    rcases List.mem_cons.1 he with rfl | he
    · cases hj; exact hal
    · rcases List.mem_append.1 he with he | he
      · exact halv e he j hj
      · cases List.mem_singleton.1 he; cases hj; exact hal
  · intro j b he
    rcases List.mem_cons.1 he with he | he
    · cases he; exact Or.inl hi
    · rcases List.mem_append.1 he with he | he
      · exact hent j b he
      · cases List.mem_singleton.1 he

theorem reap_inRound {w : World α} (hw : WF w) (hd : 0 < w.depth) (i : Nat) : InRound w (reap w i) := by
  by_cases hi : i ∈ w.active
  · obtain ⟨o, _, _, hl⟩ := hw.active_lookup hi
    have h := emit_touch hw (Or.inl ((hw.act i).1 hi))
    rw [reap_eq hi hl]
    split
    · exact h.trans (unsubById_inRound h.wf hd i)
    · exact h
  · unfold reap; rw [if_neg hi]; exact .refl hw

section
/- `inner` is the nested `notify` one level down -/
variable {inner : World α → α → World α} (hin : ∀ a, Good (fun w => inner w a))
include hin

theorem act_inRound {w : World α} (hw : WF w) (hd : 0 < w.depth) {self : Nat} (hs : Alive w self) (a : α) (x : Action) :
    InRound w (act lib inner self a w x) := by
  cases x with
  | sub k m0 => exact subscribeSlot_inRound hw _ _
  | unsubS hi => exact unsubSlot_catch_inRound hw hd hi
  | unsubH hi =>
    simp only [act]
    split
    · exact .refl hw
    · split
      · exact unsubSlot_catch_inRound hw hd hi
      · exact .refl hw
  | mute hi => exact pokeSlot_inRound hw hi (noRevive_setMuted true)
  | unmute hi => exact pokeSlot_inRound hw hi (noRevive_setMuted false)
  | inval hi => exact pokeSlot_inRound hw hi noRevive_setInvalid
  | muteSelf => exact poke_inRound hw hs (noRevive_setMuted true)
  | invalSelf => exact poke_inRound hw hs noRevive_setInvalid
  | notify => exact (hin a).inRound hw hd

theorem runScript_inRound {self : Nat} (a : α) (script : List Action) {w : World α} (hw : WF w) (hd : 0 < w.depth)
    (hs : Alive w self) : InRound w (runScript lib inner self a w script) := by
  induction script generalizing w with
  | nil => exact .refl hw
  | cons x xs ih =>
    have h := act_inRound lib hin hw hd hs a x
    exact h.trans (ih h.wf (h.depth ▸ hd) (h.ext.alive _ hs))

theorem invoke_inRound {w : World α} (hw : WF w) (hd : 0 < w.depth) {i : Nat} (hi : i ∈ w.active) (a : α) :
    InRound w (invoke lib inner w i a) := by
  obtain ⟨o, ho, hid, hl⟩ := hw.active_lookup hi
  have hal : Alive w i := Or.inl ((hw.act i).1 hi)
  rw [invoke_eq lib inner hl]
  split
  · next hc =>
    have hv : o.valid = true := (Bool.and_eq_true_iff.1 hc).2
    exact (emit_touch hw hal).trans (InRound.call (w := w.emit (.touch i)) ⟨hi, o, ho, hid, hv⟩
      (runScript_inRound lib hin a o.script ((hw.emit _).emit _) hd hal))
  · exact emit_touch hw hal

theorem turn_inRound {w : World α} (hw : WF w) (hd : 0 < w.depth) (i : Nat) (a : α) : InRound w (turn lib inner w i a) := by
  by_cases hi : i ∈ w.active
  · have h := invoke_inRound lib hin hw hd hi a
    rw [turn_active lib inner hi]
    exact h.trans (reap_inRound h.wf (h.depth ▸ hd) i)
  · rw [turn_skipped lib inner w i a hi]; exact .refl hw

theorem round_inRound (a : α) (snap : List Nat) {w : World α} (hw : WF w) (hd : 0 < w.depth) :
    InRound w (round lib inner snap w a) := by
  induction snap generalizing w with
  | nil => exact .refl hw
  | cons i is ih =>
    have h := turn_inRound lib hin hw hd i a
    exact h.trans (ih h.wf (h.depth ▸ hd))

/-- a nested `notify` (called from a callback) is itself a computation inside the round -/
theorem notifyWith_good (a : α) : Good (fun w => notifyWith lib inner w a) := by
  refine .of_inRound fun w hw hd => ?_
  have h := round_inRound lib hin a w.snapshot hw.bump (Nat.succ_pos _)
  have hne : ¬ ((round lib inner w.snapshot { w with depth := w.depth + 1 } a).depth - 1 = 0) := by
    rw [h.depth]; exact Nat.pos_iff_ne_zero.1 hd
  show InRound w (notifyWith lib inner w a)
  unfold notifyWith
  simp only [hne, if_false]
  -- back at the depth of the caller, which is not 0: nothing is cleared
  exact ⟨⟨h.wf.act, h.wf.nd, h.wf.lt, fun h0 => absurd h0 hne, h.wf.hs⟩, by rw [h.depth]; rfl, (Ext.of_setDepth h.ext).setDepth _⟩

end

theorem notify_good (fuel : Nat) : ∀ a : α, Good (fun w => notify lib fuel w a) := by
  induction fuel with
  | zero => exact notifyWith_good lib (inner := fun w _ => w) (fun _ => Good.id)
  | succ f ih => exact notifyWith_good lib (inner := notify lib f) ih

/-- `notify` is `notifyWith` some nested notify that is `Good` -/
theorem notify_unfold (fuel : Nat) :
    ∃ inner : World α → α → World α, (∀ a, Good (fun w => inner w a)) ∧ notify lib fuel = notifyWith lib inner := by
  cases fuel with
  | zero => exact ⟨fun w _ => w, fun _ => Good.id, rfl⟩
  | succ f => exact ⟨notify lib f, notify_good lib f, rfl⟩

end round

end Tulz.Subject
