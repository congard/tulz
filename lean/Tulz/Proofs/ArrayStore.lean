import Tulz.Proofs.Array
/-
  The store of `tulz::Array` variables: variable slots, the heap of block identities, the store
  invariant, and `AStore.step` against `Spec.step`.
-/
namespace Tulz
set_option linter.unusedSectionVars false
variable {α : Type}

namespace Slots
variable {β : Type}

@[simp] theorem length_put (s : Slots β) (i : Nat) (v : β) : (s.put i v).length = s.length := by simp [put]
@[simp] theorem length_del (s : Slots β) (i : Nat) : (s.del i).length = s.length := by simp [del]

theorem find_get {s : Slots β} {i : Nat} {v : β} (h : s.find i = some v) : s[i]? = some (some v) := by
  unfold find at h
  cases hg : s[i]? with
  | none => rw [hg] at h; cases h
  | some o => rw [hg] at h; exact congrArg some h

theorem find_lt {s : Slots β} {i : Nat} {v : β} (h : s.find i = some v) : i < s.length :=
  (List.getElem?_eq_some_iff.mp (find_get h)).1

theorem isFree_get {s : Slots β} {i : Nat} (h : s.isFree i = true) : s[i]? = some none := by
  unfold isFree at h
  split at h
  · assumption
  · exact absurd h (by simp)

theorem isFree_lt {s : Slots β} {i : Nat} (h : s.isFree i = true) : i < s.length :=
  (List.getElem?_eq_some_iff.mp (isFree_get h)).1

theorem isFree_find {s : Slots β} {i : Nat} (h : s.isFree i = true) : s.find i = none := by
  simp [find, isFree_get h]

theorem isFree_of_get {s : Slots β} {i : Nat} (h : s[i]? = some none) : s.isFree i = true := by
  simp [isFree, h]

theorem ne_of_find_of_isFree {s : Slots β} {i j : Nat} {v : β} (hi : s.find i = some v) (hj : s.isFree j = true) :
    i ≠ j := by
  intro h; subst h; rw [isFree_find hj] at hi; cases hi

theorem find_put_self (s : Slots β) (i : Nat) (v : β) (h : i < s.length) : (s.put i v).find i = some v := by
  simp [find, put, h]

theorem find_put_ne (s : Slots β) (i j : Nat) (v : β) (h : j ≠ i) : (s.put i v).find j = s.find j := by
  simp [find, put, List.getElem?_set_ne (Ne.symm h)]

theorem find_del_self (s : Slots β) (i : Nat) : (s.del i).find i = none := by
  by_cases h : i < s.length <;> simp [find, del, h]

theorem find_del_ne (s : Slots β) (i j : Nat) (h : j ≠ i) : (s.del i).find j = s.find j := by
  simp [find, del, List.getElem?_set_ne (Ne.symm h)]

theorem get_put_ne (s : Slots β) (i j : Nat) (v : β) (h : j ≠ i) : (s.put i v)[j]? = s[j]? := by
  simp [put, List.getElem?_set_ne (Ne.symm h)]

theorem get_put_self (s : Slots β) (i : Nat) (v : β) (h : i < s.length) : (s.put i v)[i]? = some (some v) := by
  simp [put, h]

theorem put_find {s : Slots β} {i : Nat} {v : β} (h : s.find i = some v) : s.put i v = s := by
  obtain ⟨hi, hv⟩ := List.getElem?_eq_some_iff.mp (find_get h)
  rw [put, ← hv, List.set_getElem_self]

/-- replacing slot `i`: what is gathered changes by exactly the old and the new occupant -/
theorem count_gather_set {γ : Type} [DecidableEq γ] (f : β → List γ) (s : Slots β) (i : Nat)
    (o x : Option β) (h : s[i]? = some o) (c : γ) :
    (gather f (s.set i x)).count c + (optList f o).count c
      = (gather f s).count c + (optList f x).count c := by
  induction s generalizing i with
  | nil => cases h
  | cons a t ih =>
    cases i with
    | zero =>
      cases h
      simp only [gather, List.set_cons_zero, List.flatMap_cons, List.count_append]; omega
    | succ i =>
      have := ih i h
      simp only [gather, List.set_cons_succ, List.flatMap_cons, List.count_append] at this ⊢; omega

theorem gather_map {γ δ : Type} (f : δ → List γ) (g : β → δ) (s : Slots β) :
    gather f (s.map (Option.map g)) = gather (fun v => f (g v)) s := by
  induction s with
  | nil => rfl
  | cons a t ih =>
    simp only [gather, List.map_cons, List.flatMap_cons] at ih ⊢
    rw [ih]; cases a <;> rfl

theorem gather_nil_of_all_none {γ : Type} (f : β → List γ) (s : Slots β) (h : ∀ i, s.find i = none) :
    gather f s = [] := by
  induction s with
  | nil => rfl
  | cons a t ih =>
    cases a with
    | some v => cases h 0
    | none => exact ih fun i => h (i + 1)

end Slots

/-! ### the heap of block identities -/

/-- every id handed out so far is either allocated or was freed exactly once; nothing else is known -/
def HeapInv (h : Heap) : Prop :=
  ∀ b, h.owned.count b + h.freed.count b = if b < h.next then 1 else 0

namespace Heap

theorem inv_empty : HeapInv Heap.empty := by intro b; simp [Heap.empty]

/-- `h'` is `h` after the blocks `old` were given back and the blocks `new` handed out -/
structure Moves (h : Heap) (old new : List Nat) (h' : Heap) : Prop where
  inv : HeapInv h'
  owned : ∀ b, h'.owned.count b + old.count b = h.owned.count b + new.count b

theorem Moves.refl {h : Heap} (hi : HeapInv h) (l : List Nat) : Moves h l l h := ⟨hi, fun _ => rfl⟩

theorem Moves.trans {h h1 h2 : Heap} {a b c d : List Nat} (m1 : Moves h a b h1) (m2 : Moves h1 c d h2) :
    Moves h (a ++ c) (b ++ d) h2 :=
  ⟨m2.inv, fun x => by have := m1.owned x; have := m2.owned x; simp only [List.count_append]; omega⟩

theorem heapInv_iff (h : Heap) :
    HeapInv h ↔ ∀ b, h.owned.count b + h.freed.count b = (List.range h.next).count b := by
  simp only [HeapInv, List.count_range]

theorem alloc_moves {h : Heap} (hi : HeapInv h) : Moves h [] [h.next] h.alloc.1 := by
  refine ⟨(heapInv_iff _).mpr fun b => ?_, fun b => ?_⟩
  · have := (heapInv_iff h).mp hi b
    -- `range (next + 1) = range next ++ [next]`: the same `if` for `b = next` on both sides, no case distinction
    simp only [alloc, List.range_succ, List.count_append, List.count_cons, List.count_nil] at this ⊢
    omega
  · simp only [alloc, List.count_cons, List.count_nil]; omega

theorem free_moves {h : Heap} (hi : HeapInv h) (p : Option Nat) (hp : ∀ b ∈ p, b ∈ h.owned) :
    ∃ h', h.free p = .ok h' ∧ Moves h p.toList [] h' := by
  cases p with
  | none => exact ⟨h, rfl, .refl hi []⟩
  | some c =>
    have hc := hp c rfl
    -- `owned` is a permutation of `c :: owned.erase c`: no truncated subtraction, no case distinction on `b = c`
    have he : ∀ b, (h.owned.erase c).count b + (if (c == b) = true then 1 else 0) = h.owned.count b :=
      fun b => by rw [(List.perm_cons_erase hc).count_eq b, List.count_cons]
    refine ⟨⟨h.next, h.owned.erase c, c :: h.freed⟩, by rw [free, if_pos hc]; rfl, fun b => ?_, fun b => ?_⟩
    · have := hi b
      have := he b
      show (h.owned.erase c).count b + (c :: h.freed).count b = if b < h.next then 1 else 0
      rw [List.count_cons]
      omega
    · show (h.owned.erase c).count b + [c].count b = _ + 0
      rw [List.count_singleton]
      exact he b

theorem realloc_moves {h : Heap} (hi : HeapInv h) (p : Option Nat) (n : Nat) (hp : ∀ b ∈ p, b ∈ h.owned) :
    ∃ h' p', h.realloc p n = .ok (h', p') ∧ Moves h p.toList p'.toList h' ∧ (p' = none → n = 0) := by
  cases p with
  | none => exact ⟨_, _, rfl, alloc_moves hi, fun h => by cases h⟩
  | some c =>
    obtain ⟨h1, hf, m1⟩ := free_moves hi (some c) hp
    by_cases hn : n = 0
    · exact ⟨h1, none, by simp [realloc, hf, hn], m1, fun _ => hn⟩
    · exact ⟨_, some h1.next, by simp [realloc, hf, hn, alloc], m1.trans (alloc_moves m1.inv), fun h => by cases h⟩

/-- a block cannot be given back twice -/
theorem free_twice {h h' : Heap} (hi : HeapInv h) {b : Nat} (hf : h.free (some b) = .ok h') :
    h'.free (some b) = .error .badFree := by
  by_cases hb : b ∈ h.owned
  · rw [free, if_pos hb] at hf
    cases hf
    have hnd : h.owned.Nodup := List.nodup_iff_count.mpr fun a => by have := hi a; split at this <;> omega
    rw [free, if_neg hnd.not_mem_erase]; rfl
  · rw [free, if_neg hb] at hf; cases hf

end Heap

/-! ### the store invariant -/

/-- a variable is well formed: its storage represents its contents (no moved-from shells), a class
    type has every element alive, a null pointer goes with size 0 -/
structure VarOK (cls : Bool) (v : AVar α) : Prop where
  rep : v.arr.data = ofSpec v.arr.contents
  allLive : cls = true → Spec.full v.arr.contents
  nullEmpty : v.blk = none → v.arr.contents = []

theorem VarOK.of_spec (cls : Bool) (b : Option Nat) (l : List (Option α))
    (hf : cls = true → Spec.full l) (hn : b = none → l = []) : VarOK cls ⟨b, ⟨ofSpec l⟩⟩ :=
  ⟨by simp, by simpa using hf, by simpa using hn⟩

theorem VarOK.empty (cls : Bool) : VarOK cls (⟨none, Arr.empty⟩ : AVar α) :=
  VarOK.of_spec cls none [] (fun _ => full_nil) fun _ => rfl

theorem VarOK.arr_eq {cls : Bool} {v : AVar α} (h : VarOK cls v) : v.arr = ⟨ofSpec v.arr.contents⟩ := by
  cases v with | mk b a => cases a with | mk d => simpa using h.rep

/-- the block a variable points to, as a list -/
abbrev blkOf (v : AVar α) : List Nat := v.blk.toList

structure Inv (cls : Bool) (s : AStore α) : Prop where
  vars : ∀ i v, s.vars.find i = some v → VarOK cls v
  heap : HeapInv s.heap
  own : ∀ b, s.blocks.count b = s.heap.owned.count b

namespace AStore
variable [Inhabited α]

theorem find_init (nv i : Nat) : (AStore.init nv : AStore α).vars.find i = none := by
  simp only [init, Slots.find, List.getElem?_replicate]
  split <;> rfl

theorem inv_init (cls : Bool) (nv : Nat) : Inv cls (AStore.init nv : AStore α) := by
  refine ⟨fun i v h => ?_, Heap.inv_empty, fun b => ?_⟩
  · rw [find_init] at h; cases h
  · rw [blocks, Slots.gather_nil_of_all_none _ _ (find_init nv)]; rfl

variable {cls : Bool} {s : AStore α}

/-! the abstraction commutes with the slot operations -/

theorem abs_put (s : AStore α) (i : Nat) (v : AVar α) (h' : Heap) :
    (⟨s.vars.put i v, h'⟩ : AStore α).abs = s.abs.put i v.arr.contents := by
  simp [abs, Slots.put, List.map_set]

theorem abs_put2 (s : AStore α) (i j : Nat) (vi vj : AVar α) (h' : Heap) :
    (⟨(s.vars.put i vi).put j vj, h'⟩ : AStore α).abs = (s.abs.put i vi.arr.contents).put j vj.arr.contents := by
  simp [abs, Slots.put, List.map_set]

theorem abs_del (s : AStore α) (i : Nat) (h' : Heap) :
    (⟨s.vars.del i, h'⟩ : AStore α).abs = s.abs.del i := by
  simp [abs, Slots.del, List.map_set]

theorem abs_find (s : AStore α) (i : Nat) :
    s.abs.find i = (s.vars.find i).map (fun v => v.arr.contents) := by
  simp only [abs, Slots.find, List.getElem?_map]
  cases s.vars[i]? with
  | none => rfl
  | some o => cases o <;> rfl

theorem abs_isFree (s : AStore α) (i : Nat) : s.abs.isFree i = s.vars.isFree i := by
  simp only [abs, Slots.isFree, List.getElem?_map]
  cases s.vars[i]? with
  | none => rfl
  | some o => cases o <;> rfl

theorem abs_length (s : AStore α) : s.abs.length = s.vars.length := by simp [abs]

/-- under the invariant a variable seen through `abs` is the representation of its contents -/
theorem find_abs (hinv : Inv cls s) {i : Nat} {l : List (Option α)} (h : s.abs.find i = some l) :
    ∃ p, s.vars.find i = some ⟨p, ⟨ofSpec l⟩⟩ ∧ (cls = true → Spec.full l) ∧ (p = none → l = []) := by
  rw [abs_find] at h
  cases hv : s.vars.find i with
  | none => rw [hv] at h; cases h
  | some v =>
    rw [hv] at h; cases h
    have hok := hinv.vars i v hv
    exact ⟨v.blk, by rw [← hok.arr_eq], hok.allLive, hok.nullEmpty⟩

/-! block accounting -/

theorem count_blocks_set (s : AStore α) {i : Nat} {o : Option (AVar α)} (h : s.vars[i]? = some o)
    (x : Option (AVar α)) (h' : Heap) (b : Nat) :
    (blocks ⟨s.vars.set i x, h'⟩).count b + (Slots.optList blkOf o).count b
      = s.blocks.count b + (Slots.optList blkOf x).count b :=
  Slots.count_gather_set _ _ _ _ _ h b

theorem owned_of_find (hinv : Inv cls s) {i : Nat} {v : AVar α} (h : s.vars.find i = some v) :
    ∀ b ∈ v.blk, b ∈ s.heap.owned := by
  intro b hb
  have h1 := count_blocks_set s (Slots.find_get h) none s.heap b
  have h2 := hinv.own b
  apply List.count_pos_iff.mp
  simp only [Slots.optList, blkOf, Option.mem_def.mp hb, Option.toList, List.count_cons_self, List.count_nil] at h1
  omega

/-- overwriting (`x = some v`) or emptying (`x = none`) a slot keeps the variables well formed -/
theorem vars_set {vars : Slots (AVar α)} (hv : ∀ j w, vars.find j = some w → VarOK cls w)
    (i : Nat) {x : Option (AVar α)} (hx : x.elim True (VarOK cls)) :
    ∀ j w, Slots.find (vars.set i x) j = some w → VarOK cls w := by
  intro j w hj
  unfold Slots.find at hj
  rw [List.getElem?_set] at hj
  split at hj
  · split at hj
    · subst hj; exact hx
    · cases hj
  · exact hv j w hj

/-- overwrite or empty slot `i` while the heap exchanges the blocks accordingly -/
theorem inv_set (hinv : Inv cls s) {i : Nat} {o : Option (AVar α)}
    (hget : s.vars[i]? = some o) (x : Option (AVar α)) (hx : x.elim True (VarOK cls)) {h' : Heap}
    (hm : s.heap.Moves (Slots.optList blkOf o) (Slots.optList blkOf x) h') :
    Inv cls ⟨s.vars.set i x, h'⟩ := by
  refine ⟨vars_set hinv.vars i hx, hm.inv, fun b => ?_⟩
  have h1 := count_blocks_set s hget x h' b
  have h2 := hinv.own b
  have h3 := hm.owned b
  show (blocks ⟨s.vars.set i x, h'⟩).count b = h'.owned.count b
  omega

/-- two different variables never point to the same block: destroy the first, and the second would
    still own a block that was given back -/
theorem no_alias (hinv : Inv cls s) {i j : Nat} (hij : i ≠ j)
    {v w : AVar α} (hv : s.vars.find i = some v) (hw : s.vars.find j = some w) {b : Nat}
    (hb : v.blk = some b) : w.blk ≠ some b := by
  intro hwb
  obtain ⟨h', hf, mf⟩ := Heap.free_moves hinv.heap v.blk (owned_of_find hinv hv)
  have hmem := owned_of_find (inv_set hinv (Slots.find_get hv) none trivial mf)
    ((Slots.find_del_ne _ _ _ hij.symm).trans hw) b hwb
  rw [hb] at hf
  have := Heap.free_twice hinv.heap hf
  rw [Heap.free, if_pos hmem] at this
  cases this

/-- slot `j` receives what slot `i` held, slot `i` a variable with the block of `j`'s occupant: the heap is
    untouched, blocks only change hands -/
theorem inv_exchange (hinv : Inv cls s) {i j : Nat} (hij : i ≠ j) {v : AVar α}
    (hi : s.vars.find i = some v) {oj : Option (AVar α)} (hj : s.vars[j]? = some oj) {w : AVar α}
    (hw : VarOK cls w) (hb : blkOf w = Slots.optList blkOf oj) :
    Inv cls ⟨(s.vars.put i w).put j v, s.heap⟩ := by
  refine ⟨vars_set (vars_set hinv.vars i (x := some w) hw) j (x := some v) (hinv.vars i v hi), hinv.heap,
    fun b => ?_⟩
  have hj' : (s.vars.put i w)[j]? = some oj := by rw [Slots.get_put_ne _ _ _ _ hij.symm]; exact hj
  have h1 : (blocks ⟨s.vars.put i w, s.heap⟩).count b + (blkOf v).count b = _ + (blkOf w).count b :=
    count_blocks_set s (Slots.find_get hi) (some w) s.heap b
  have h2 : (blocks ⟨(s.vars.put i w).put j v, s.heap⟩).count b + _ = _ + (blkOf v).count b :=
    count_blocks_set ⟨s.vars.put i w, s.heap⟩ hj' (some v) s.heap b
  have h3 := hinv.own b
  rw [hb] at h1
  show (blocks ⟨(s.vars.put i w).put j v, s.heap⟩).count b = s.heap.owned.count b
  omega

/-! ### one operation -/

theorem free_of_abs {i : Nat} (h : s.abs.isFree i = true) : s.vars.isFree i = true := by
  rw [← abs_isFree]; exact h

theorem fresh_ok {id : Nat} (h : s.vars.isFree id = true) : fresh s id = .ok () := by
  simp only [fresh, h, if_true]; rfl

theorem need_ok {id : Nat} {v : AVar α} (h : s.vars.find id = some v) : need s id = .ok v := by
  simp only [need, h]; rfl

/-- the destructor of a well-formed variable destroys its elements without error and leaves no object
    in the block: all that remains is to give the block back -/
theorem release_eq_free (cls : Bool) (h : Heap) {v : AVar α} (hok : VarOK cls v) :
    release cls h v = h.free v.blk := by
  obtain ⟨dd, hd, hl⟩ := Arr.destroyAll_spec cls v.arr.contents hok.allLive
  rw [← hok.arr_eq] at hd
  cases cls with
  | false => simp [release, hd]
  | true => simp [release, hd, hl rfl]

/-! the model step on known variables -/

theorem step_copy (hinv : Inv cls s) {dst src : Nat} {v : AVar α}
    (hfree : s.vars.isFree dst = true) (hfv : s.vars.find src = some v) :
    step cls s (.copy dst src) = .ok (s.construct dst v.arr, .unit) := by
  have hok := hinv.vars src v hfv
  have h := Arr.copyOf_spec cls v.arr.contents hok.allLive
  rw [← hok.arr_eq] at h
  unfold step
  simp only [fresh_ok hfree, need_ok hfv, h, ok_bind, pure_eq_ok]

theorem step_mctor (cls : Bool) (s : AStore α) {dst src : Nat} {v : AVar α}
    (hfree : s.vars.isFree dst = true) (hfv : s.vars.find src = some v) :
    step cls s (.mctor dst src) = .ok (⟨(s.vars.put src ⟨none, Arr.empty⟩).put dst v, s.heap⟩, .unit) := by
  unfold step
  simp only [fresh_ok hfree, need_ok hfv, ok_bind, pure_eq_ok]

theorem step_massign (cls : Bool) (s : AStore α) {dst src : Nat} {d v : AVar α} (hne : dst ≠ src)
    (hfd : s.vars.find dst = some d) (hfv : s.vars.find src = some v) :
    step cls s (.massign dst src) = .ok (⟨(s.vars.put dst v).put src d, s.heap⟩, .unit) := by
  unfold step
  simp only [need_ok hfd, need_ok hfv, ok_bind, if_neg hne, pure_eq_ok]

theorem step_drop {id : Nat} {v : AVar α} (hfv : s.vars.find id = some v) (hok : VarOK cls v) :
    step cls s (.drop id) = (s.heap.free v.blk >>= fun h => pure (⟨s.vars.del id, h⟩, .unit)) := by
  unfold step
  simp only [need_ok hfv, ok_bind, release_eq_free cls _ hok]

/-- what `step_refines` establishes for one operation -/
def Refines (cls : Bool) (s : AStore α) (op : AOp α) : Prop :=
  ∃ s', step cls s op = .ok (s', (Spec.step cls s.abs op).2) ∧ Inv cls s' ∧ s'.abs = (Spec.step cls s.abs op).1

theorem Refines.of_eq {s' : AStore α} {op : AOp α} {sp' : Spec.St α} {out : AOut α}
    (hstep : step cls s op = .ok (s', out)) (hspec : Spec.step cls s.abs op = (sp', out))
    (hinv : Inv cls s') (habs : s'.abs = sp') : Refines cls s op :=
  ⟨s', by rw [hstep, hspec], hinv, by rw [hspec, habs]⟩

/-- an operation that leaves `⟨p, ofSpec l⟩` in slot `i` (empty or occupied before) while the heap
    takes back the block of the old occupant and hands out `p` -/
theorem write_refines (hinv : Inv cls s) (op : AOp α) {i : Nat}
    {o : Option (AVar α)} (hget : s.vars[i]? = some o) {p : Option Nat} {l : List (Option α)} {h' : Heap}
    (hf : cls = true → Spec.full l) (hnull : p = none → l = [])
    (hm : s.heap.Moves (Slots.optList blkOf o) p.toList h')
    (hstep : step cls s op = .ok (⟨s.vars.put i ⟨p, ⟨ofSpec l⟩⟩, h'⟩, .unit))
    (hspec : Spec.step cls s.abs op = (s.abs.put i l, .unit)) : Refines cls s op :=
  .of_eq hstep hspec (inv_set hinv hget (some _) (VarOK.of_spec cls p l hf hnull) hm)
    (by rw [abs_put, contents_ofSpec])

theorem step_alloc {id : Nat} {A : AM (Arr α)} {a : Arr α} (hA : A = .ok a) (h : s.vars.isFree id = true) :
    (fresh s id >>= fun _ => A >>= fun a => pure (s.construct id a, (.unit : AOut α)))
      = .ok (s.construct id a, .unit) := by
  rw [fresh_ok h, hA]; rfl

/-- a constructor that allocates -/
theorem ctor_refines (hinv : Inv cls s) (op : AOp α) {id : Nat}
    (hfree : s.abs.isFree id = true) {l : List (Option α)} (hf : cls = true → Spec.full l)
    (hstep : s.vars.isFree id = true → step cls s op = .ok (s.construct id ⟨ofSpec l⟩, .unit))
    (hspec : Spec.step cls s.abs op = (s.abs.put id l, .unit)) : Refines cls s op :=
  write_refines hinv op (p := some s.heap.next) (Slots.isFree_get (free_of_abs hfree)) hf
    (fun h => by cases h) (Heap.alloc_moves hinv.heap) (hstep (free_of_abs hfree)) hspec

/-- an operation that observes one variable through `q` and reports `f` of what it saw -/
theorem query_refines (hinv : Inv cls s) (op : AOp α) {id : Nat}
    {l : List (Option α)} (hl : s.abs.find id = some l) {β : Type} (q : Arr α → AM β) {r : β}
    (hq : q ⟨ofSpec l⟩ = .ok r) (f : β → AOut α)
    (hstep : step cls s op = (need s id >>= fun v => q v.arr >>= fun r => pure (s, f r)))
    (hspec : Spec.step cls s.abs op = (s.abs, f r)) : Refines cls s op := by
  obtain ⟨p, hfv, _⟩ := find_abs hinv hl
  exact .of_eq (by rw [hstep, need_ok hfv, ok_bind, hq]; rfl) hspec hinv rfl

/-- the three `resize`s: `q` computes the new elements (the first ones kept, the new tail `f`), then the block
    is reallocated -/
theorem resize_refines (hinv : Inv cls s) (op : AOp α) {id n : Nat}
    {l : List (Option α)} (hl : s.abs.find id = some l) (f : Option α) (hf : cls = true → f ≠ none)
    (q : Arr α → AM (Arr α))
    (hq : (cls = true → Spec.full l) → q ⟨ofSpec l⟩ = .ok ⟨ofSpec (Spec.resized l n f)⟩)
    (hstep : step cls s op = (need s id >>= fun v => q v.arr >>= fun a => s.heap.realloc v.blk n >>= fun r =>
      pure (⟨s.vars.put id ⟨r.2, a⟩, r.1⟩, .unit)))
    (hspec : Spec.step cls s.abs op = (s.abs.put id (Spec.resized l n f), .unit)) : Refines cls s op := by
  obtain ⟨p, hfv, hfl, _⟩ := find_abs hinv hl
  obtain ⟨h', p', hre, hm, hnull⟩ := Heap.realloc_moves hinv.heap p n (owned_of_find hinv hfv)
  exact write_refines hinv op (Slots.find_get hfv) (fun hc => full_resized n (hfl hc) (hf hc))
    (fun hp => by rw [hnull hp, Arr.resized_zero]) hm
    (by rw [hstep, need_ok hfv, ok_bind, hq hfl, ok_bind, hre]; rfl) hspec

/-- move assignment exchanges the two objects (`rhs.swap(*this)`) -/
theorem massign_refines (hinv : Inv cls s) (dst src : Nat)
    (hv : Spec.valid s.abs (.massign dst src)) : Refines cls s (.massign dst src) := by
  obtain ⟨⟨ld, hld⟩, ls, hls⟩ := hv
  obtain ⟨pd, hfd, _⟩ := find_abs hinv hld
  obtain ⟨ps, hfs, _⟩ := find_abs hinv hls
  by_cases heq : dst = src
  · subst heq
    exact .of_eq (s' := s) (out := .unit) (by unfold step; simp only [need_ok hfd, ok_bind, if_true, pure_eq_ok])
      (by unfold Spec.step; simp only [hls, Slots.put_find hls]) hinv rfl
  · exact .of_eq (step_massign cls s heq hfd hfs) (by unfold Spec.step; simp only [hld, hls]; rfl)
      (inv_exchange hinv heq hfd (Slots.find_get hfs) (hinv.vars _ _ hfs) rfl)
      (by rw [abs_put2, contents_ofSpec, contents_ofSpec])

theorem step_refines (cls : Bool) (s : AStore α) (op : AOp α) (hinv : Inv cls s)
    (hv : Spec.valid s.abs op) : Refines cls s op := by
  cases op with
  | ptr id src n =>
    exact ctor_refines hinv _ hv.1 (fun _ => full_map_some _)
      (step_alloc (Arr.ofPtr_spec cls src n hv.2)) rfl
  | init id vs =>
    exact ctor_refines hinv _ hv (fun _ => full_map_some _) (step_alloc (Arr.ofInit_spec vs)) rfl
  | size id n =>
    exact ctor_refines hinv _ hv (fun hc => full_replicate n (dfl_ne_none hc))
      (step_alloc (Arr.ofSize_spec cls n)) rfl
  | fill id n v =>
    exact ctor_refines hinv _ hv (fun _ => full_replicate n (Option.some_ne_none v))
      (step_alloc (Arr.ofFill_spec n v)) rfl
  | dflt id =>
    have hfree := free_of_abs hv
    exact write_refines hinv _ (p := none) (l := []) (Slots.isFree_get hfree) (fun _ => full_nil) (fun _ => rfl)
      (.refl hinv.heap []) (by unfold step; simp only [fresh_ok hfree, ok_bind, pure_eq_ok]; rfl) rfl
  | copy dst src =>
    obtain ⟨hfree, l, hl⟩ := hv
    obtain ⟨p, hfv, hfl, _⟩ := find_abs hinv hl
    exact ctor_refines hinv _ hfree hfl (fun h => step_copy hinv h hfv) (by unfold Spec.step; simp only [hl])
  | mctor dst src =>
    obtain ⟨hfree, l, hl⟩ := hv
    obtain ⟨p, hfv, _⟩ := find_abs hinv hl
    have hfree' := free_of_abs hfree
    exact .of_eq (step_mctor cls s hfree' hfv) (by unfold Spec.step; simp only [hl]; rfl)
      (inv_exchange hinv (Slots.ne_of_find_of_isFree hfv hfree') hfv (Slots.isFree_get hfree') (VarOK.empty cls) rfl)
      (by rw [abs_put2, contents_empty, contents_ofSpec])
  | cassign dst src =>
    obtain ⟨⟨ld, hld⟩, ls, hls⟩ := hv
    obtain ⟨pd, hfd, _⟩ := find_abs hinv hld
    obtain ⟨ps, hfs, hfl, _⟩ := find_abs hinv hls
    by_cases heq : dst = src
    · subst heq
      exact .of_eq (s' := s) (out := .unit) (by unfold step; simp only [need_ok hfd, ok_bind, if_true, pure_eq_ok])
        (by unfold Spec.step; simp only [hls, Slots.put_find hls]) hinv rfl
    · -- the copy gets a new block, then the temporary that holds the old contents gives its block back
      have ma := Heap.alloc_moves hinv.heap
      obtain ⟨h', hfree, mf⟩ := Heap.free_moves ma.inv pd
        fun b hb => List.mem_cons_of_mem _ (owned_of_find hinv hfd b hb)
      exact write_refines hinv _ (p := some s.heap.next) (Slots.find_get hfd) hfl (fun h => by cases h)
        (ma.trans mf)
        (by unfold step
            simp only [need_ok hfd, need_ok hfs, ok_bind, if_neg heq, Arr.copyOf_spec cls ls hfl, construct,
              release_eq_free cls _ (hinv.vars _ _ hfd), hfree, pure_eq_ok]
            rfl)
        (by unfold Spec.step; simp only [hls])
  | massign dst src => exact massign_refines hinv dst src hv
  | swap a b => exact massign_refines hinv a b hv
  | resize id n =>
    obtain ⟨l, hl⟩ := hv
    exact resize_refines hinv _ hl (Spec.dfl cls) dfl_ne_none (Arr.resize cls · n) (Arr.resize_spec cls l n) rfl
      (by unfold Spec.step; simp only [hl])
  | resizeV id n x =>
    obtain ⟨l, hl⟩ := hv
    exact resize_refines hinv _ hl (some x) (fun _ => Option.some_ne_none x) (Arr.resizeFill cls · n x)
      (Arr.resizeFill_spec cls l n x) rfl (by unfold Spec.step; simp only [hl])
  | resizeSelf id n i =>
    obtain ⟨l, x, hl, hli⟩ := hv
    exact resize_refines hinv _ hl (some x) (fun _ => Option.some_ne_none x) (Arr.resizeSelf cls · n i)
      (Arr.resizeSelf_spec cls l n i x hli) rfl (by unfold Spec.step; simp only [hl, hli, Option.join_some])
  | set id i x =>
    obtain ⟨l, hl, hi⟩ := hv
    obtain ⟨p, hfv, hfl, hnull⟩ := find_abs hinv hl
    exact write_refines hinv _ (Slots.find_get hfv) (fun hc => full_set i x (hfl hc))
      (fun hp => by rw [hnull hp]; rfl) (.refl hinv.heap _)
      (by unfold step; simp only [need_ok hfv, ok_bind, Arr.set_spec cls l i x hi hfl, pure_eq_ok])
      (by unfold Spec.step; simp only [hl])
  | get id i =>
    obtain ⟨l, x, hl, hli⟩ := hv
    exact query_refines hinv _ hl (Arr.get · i) (Arr.get_spec l i x hli) .val rfl
      (by unfold Spec.step; simp only [hl, hli, Option.join_some])
  | iter id =>
    obtain ⟨l, hl, hfull⟩ := hv
    exact query_refines hinv _ hl Arr.toList (Arr.toList_spec l hfull) .vals rfl
      (by unfold Spec.step; simp only [hl])
  | len id =>
    obtain ⟨l, hl⟩ := hv
    exact query_refines hinv _ hl (pure ·.size) (congrArg Except.ok (size_ofSpec l)) .num rfl
      (by unfold Spec.step; simp only [hl])
  | front id =>
    obtain ⟨l, x, hl, hli⟩ := hv
    exact query_refines hinv _ hl Arr.front (Arr.get_spec l 0 x hli) .val rfl
      (by unfold Spec.step; simp only [hl, hli, Option.join_some])
  | back id =>
    obtain ⟨l, x, hl, hli⟩ := hv
    exact query_refines hinv _ hl Arr.back (by rw [Arr.back, size_ofSpec]; exact Arr.get_spec l _ x hli) .val rfl
      (by unfold Spec.step; simp only [hl, hli, Option.join_some])
  | drop id =>
    obtain ⟨l, hl⟩ := hv
    obtain ⟨p, hfv, _⟩ := find_abs hinv hl
    obtain ⟨h', hfree, mf⟩ := Heap.free_moves hinv.heap p (owned_of_find hinv hfv)
    exact .of_eq (by rw [step_drop hfv (hinv.vars _ _ hfv), hfree]; rfl) rfl
      (inv_set hinv (Slots.find_get hfv) none trivial mf) (abs_del s id h')

/-! ### histories -/

theorem run_refines (cls : Bool) (ops : List (AOp α)) :
    ∀ s : AStore α, Inv cls s → Spec.validFrom cls s.abs ops →
      ∃ s', run cls s ops = .ok (s', (Spec.run cls s.abs ops).2) ∧ Inv cls s' ∧
        s'.abs = (Spec.run cls s.abs ops).1 := by
  induction ops with
  | nil => intro s hinv _; exact ⟨s, rfl, hinv, rfl⟩
  | cons op ops ih =>
    intro s hinv hv
    obtain ⟨hv1, hv2⟩ := hv
    obtain ⟨s1, h1, hinv1, habs1⟩ := step_refines cls s op hinv hv1
    rw [← habs1] at hv2
    obtain ⟨s2, h2, hinv2, habs2⟩ := ih s1 hinv1 hv2
    refine ⟨s2, ?_, hinv2, ?_⟩
    · simp [run, h1, h2, Spec.run, habs1]
    · simp [Spec.run, habs2, habs1]

theorem liveVals_abs (s : AStore α) : s.liveVals = Spec.allItems s.abs := by
  simp only [liveVals, Spec.allItems, abs, Slots.gather_map]
  congr 1
  funext v
  simp [Mem.liveVals, Spec.plain, Arr.contents, List.filterMap_map, Function.comp_def]

/-- when no variable is left: nothing is alive, nothing is still allocated, and the log of `free`
    calls is a permutation of all block ids ever handed out (each freed exactly once) -/
theorem all_dropped (hinv : Inv cls s) (hnone : ∀ i, s.vars.find i = none) :
    s.liveVals = [] ∧ s.heap.owned = [] ∧ s.heap.freed.Perm (List.range s.heap.next) := by
  have ho : s.heap.owned = [] := by
    apply List.eq_nil_iff_forall_not_mem.mpr
    intro b hb
    have := hinv.own b
    rw [blocks, Slots.gather_nil_of_all_none _ _ hnone] at this
    exact absurd (List.count_pos_iff.mpr hb) (by rw [← this]; simp)
  refine ⟨Slots.gather_nil_of_all_none _ _ hnone, ho, List.perm_iff_count.mpr fun b => ?_⟩
  have := (Heap.heapInv_iff _).mp hinv.heap b
  rwa [ho, List.count_nil, Nat.zero_add] at this

theorem class_plain {s : AStore α} (hinv : Inv true s) {i : Nat} {v : AVar α} (hv : s.vars.find i = some v) :
    v.arr.contents = (Spec.plain v.arr.contents).map some ∧
    v.arr.data = (Spec.plain v.arr.contents).map .live := by
  have hok := hinv.vars i v hv
  obtain ⟨vs, hvs⟩ := full_exists _ (hok.allLive rfl)
  have hd := hok.rep
  rw [hvs] at hd ⊢
  simp [hd]

/-! ### the shallow copy -/

/-- the mutant: a copy constructor that shares the storage of its source -/
def shallowCopy (s : AStore α) (dst : Nat) (v : AVar α) : AStore α := ⟨s.vars.put dst v, s.heap⟩

theorem shallow_double_free (hinv : Inv cls s) {dst src : Nat} {v : AVar α}
    {b : Nat} (hfree : s.vars.isFree dst = true) (hfv : s.vars.find src = some v) (hb : v.blk = some b) :
    (step cls (shallowCopy s dst v) (.drop src) >>= fun r => step cls r.1 (.drop dst)) = .error .badFree := by
  have hne := Slots.ne_of_find_of_isFree hfv hfree
  have hok := hinv.vars src v hfv
  obtain ⟨h1, hf1, _⟩ := Heap.free_moves hinv.heap (some b) fun c hc => owned_of_find hinv hfv c (hb ▸ hc)
  have hs : (s.vars.put dst v).find src = some v := (Slots.find_put_ne _ _ _ _ hne).trans hfv
  have hd : ((s.vars.put dst v).del src).find dst = some v :=
    (Slots.find_del_ne _ _ _ hne.symm).trans (Slots.find_put_self _ _ _ (Slots.isFree_lt hfree))
  have e1 := step_drop (s := ⟨s.vars.put dst v, s.heap⟩) hs hok
  have e2 := step_drop (s := ⟨(s.vars.put dst v).del src, h1⟩) hd hok
  rw [hb] at e1 e2
  rw [shallowCopy, e1, hf1, ok_bind, pure_eq_ok, ok_bind]
  exact e2.trans (by rw [Heap.free_twice hinv.heap hf1]; rfl)

end AStore

/-! ### the specification leaves unnamed variables alone -/
namespace Spec
variable [Inhabited α]

theorem step_frame (cls : Bool) (sp : St α) (op : AOp α) (j : Nat) (hj : j ∉ op.mentions) :
    (step cls sp op).1.find j = sp.find j := by
  -- every arm of `step` (and of its inner look-up) is `sp` after `put`s and `del`s at variables the operation names
  unfold step
  split <;> (try split) <;>
    simp only [AOp.mentions, List.mem_cons, List.not_mem_nil, or_false, not_or] at hj <;>
    simp only [Slots.find_put_ne, Slots.find_del_ne, hj, ne_eq, not_false_eq_true]

theorem run_frame (cls : Bool) (ops : List (AOp α)) (j : Nat) :
    ∀ sp : St α, (∀ op ∈ ops, j ∉ op.mentions) → (run cls sp ops).1.find j = sp.find j := by
  induction ops with
  | nil => intro sp _; rfl
  | cons op ops ih =>
    intro sp h
    simp only [run]
    rw [ih _ (fun o ho => h o (by simp [ho])), step_frame cls sp op j (h op (by simp))]

end Spec
end Tulz
