import Tulz.Proofs.RingBuffer
/-
  push / pop at both ends preserve `Rep` and return what the bounded deque returns.  Each proof reads the block
  in logical order (`Rep.rot_eq`), rewrites the one slot the operation writes (`rot_set`, `rot_set_self`) and the
  step of the head (`rot_succ`, `rot_pred`), and folds the result back (`Rep.of_rot`).
-/
namespace Tulz
namespace RB
variable {α : Type}

theorem phys_zero {b : RB α} {xs} (h : Rep b xs) (hc : 0 < b.cap) : b.phys 0 = b.pos :=
  Nat.mod_eq_of_lt (h.pos_lt hc)

theorem overwriteCheck {b : RB α} {ow : Bool} (hpre : ow = true ∨ b.size < b.cap) :
    ¬ (!ow && !decide (b.size < b.cap)) = true := by
  rcases hpre with h | h <;> simp [h]

theorem Rep.set_len {b : RB α} {xs} (h : Rep b xs) (i : Nat) (s : Slot α) : (b.data.set i s).length = b.cap := by
  rw [List.length_set, h.data_len]

theorem Rep.rot_full {b : RB α} {xs} (h : Rep b xs) (hf : b.size = b.cap) : rot b.pos b.data = xs.map .live := by
  obtain ⟨junk, hv, hjl, -⟩ := h.rot_eq
  rw [hv, List.eq_nil_of_length_eq_zero (hjl.trans (by rw [hf, Nat.sub_self])), List.append_nil]

/-! ### emplace_back / push_back -/

theorem emplaceBack_ok {b : RB α} {xs} (ow : Bool) (x : α) (h : Rep b xs) (hc : 0 < b.cap)
    (hpre : ow = true ∨ b.size < b.cap) :
    ∃ b', b.emplaceBack ow x = .ok (b', x) ∧ Rep b' (Deque.pushBack ⟨b.cap, xs⟩ x).items ∧ b'.cap = b.cap := by
  have hp := h.pos_lt hc
  by_cases hf : b.size = b.cap
  · -- full: overwrite the first element, then step the head
    have hxl : ¬ xs.length < b.cap := by rw [h.len_eq, hf]; exact Nat.lt_irrefl _
    obtain ⟨y, ys, rfl⟩ := List.exists_cons_of_length_pos (Nat.lt_of_lt_of_le hc (Nat.le_of_not_lt hxl))
    have h0 := h.live 0 (Nat.zero_lt_succ _)
    rw [phys_zero h hc] at h0
    have hrep : Rep ⟨(b.pos + 1) % b.cap, b.size, b.cap, b.data.set b.pos (.live x)⟩ (ys ++ [x]) := by
      have hdl := h.set_len b.pos (.live x)
      have hv : rot b.pos (b.data.set b.pos (.live x)) = .live x :: ys.map .live := by
        rw [rot_set_self h.data_len hp, h.rot_full hf]; rfl
      refine Rep.of_rot (junk := []) hdl (.inl (Nat.mod_lt _ hc)) (by rw [← h.len_eq, List.length_append]; rfl) ?_
        (fun _ hs => nomatch hs)
      rw [rot_succ hdl hp hv, List.map_append, List.append_nil]; rfl
    rw [Deque.pushBack, if_neg hxl]
    refine ⟨_, ?_, hrep, rfl⟩
    unfold RB.emplaceBack
    rw [if_neg (overwriteCheck hpre), if_pos hf, assign_live x h0]
    show (do let r ← RB.back _; pure (_, r)) = _
    rw [back_ok hrep (List.concat_ne_nil _ _), List.getLast_concat]
    rfl
  · -- room left: construct behind the last element
    have hlt : b.size < b.cap := Nat.lt_of_le_of_ne h.size_le hf
    have hxl : xs.length < b.cap := by rw [h.len_eq]; exact hlt
    obtain ⟨s, hs, hsd⟩ := h.dead_slot b.size (Nat.le_refl _) hlt
    obtain ⟨junk, hv, hjl, hj⟩ := h.rot_eq
    obtain ⟨r, junk', rfl⟩ := List.exists_cons_of_length_pos (hjl ▸ Nat.sub_pos_of_lt hlt)
    have hrep : Rep ⟨b.pos, b.size + 1, b.cap, b.data.set (b.phys b.size) (.live x)⟩ (xs ++ [x]) := by
      have hxm : (xs.map Slot.live).length = b.size := by rw [List.length_map, h.len_eq]
      refine Rep.of_rot (junk := junk') (h.set_len _ _) (.inl hp)
        (by rw [← h.len_eq, List.length_append]; rfl) ?_ (fun s hs => hj s (List.mem_cons_of_mem _ hs))
      show rot b.pos (b.data.set ((b.pos + b.size) % b.cap) _) = _
      rw [rot_set h.data_len h.pos_le hlt, hv, List.set_append_right _ _ (Nat.le_of_eq hxm), hxm, Nat.sub_self,
        List.map_append, List.append_assoc]
      rfl
    rw [Deque.pushBack, if_pos hxl]
    refine ⟨_, ?_, hrep, rfl⟩
    unfold RB.emplaceBack
    rw [if_neg (overwriteCheck hpre), if_neg hf, construct_dead x hs hsd]
    show (do let r ← RB.back _; pure (_, r)) = _
    rw [back_ok hrep (List.concat_ne_nil _ _), List.getLast_concat]
    rfl

/-! ### emplace_front / push_front -/

theorem emplaceFront_ok {b : RB α} {xs} (ow : Bool) (x : α) (h : Rep b xs) (hc : 0 < b.cap)
    (hpre : ow = true ∨ b.size < b.cap) :
    ∃ b', b.emplaceFront ow x = .ok (b', x) ∧ Rep b' (Deque.pushFront ⟨b.cap, xs⟩ x).items ∧ b'.cap = b.cap := by
  have hp := h.pos_lt hc
  have hp' : (b.pos + b.cap - 1) % b.cap < b.cap := Nat.mod_lt _ hc
  have hpl : b.phys (b.cap - 1) = (b.pos + b.cap - 1) % b.cap := by rw [RB.phys, Nat.add_sub_assoc hc]
  have hdl := h.set_len ((b.pos + b.cap - 1) % b.cap) (.live x)
  by_cases hf : b.size = b.cap
  · -- full: step the head back onto the last element and overwrite it
    have hxc : xs.length = b.cap := h.len_eq.trans hf
    have hxl : ¬ xs.length < b.cap := by rw [hxc]; exact Nat.lt_irrefl _
    have hne : xs ≠ [] := List.ne_nil_of_length_pos (hxc ▸ hc)
    have hlast := h.live (b.cap - 1) (by rw [hxc]; exact Nat.sub_lt hc Nat.one_pos)
    rw [hpl] at hlast
    have hrep : Rep ⟨(b.pos + b.cap - 1) % b.cap, b.size, b.cap, b.data.set ((b.pos + b.cap - 1) % b.cap) (.live x)⟩
        (x :: xs.dropLast) := by
      have hv := h.rot_full hf
      rw [← List.dropLast_concat_getLast hne, List.map_append] at hv
      refine Rep.of_rot (junk := []) hdl (.inl hp')
        (by rw [← h.len_eq, List.length_cons, List.length_dropLast]; exact Nat.sub_add_cancel (hxc ▸ hc)) ?_
        (fun _ hs => nomatch hs)
      show rot _ (b.data.set _ _) = _
      rw [rot_set_self h.data_len hp', rot_pred h.data_len hp hv, List.append_nil]
      rfl
    rw [Deque.pushFront, if_neg hxl]
    refine ⟨_, ?_, hrep, rfl⟩
    unfold RB.emplaceFront
    rw [if_neg (overwriteCheck hpre), if_pos hf, assign_live x hlast]
    show (do let r ← RB.front _; pure (_, r)) = _
    rw [front_ok hrep (List.cons_ne_nil _ _)]
    rfl
  · -- room left: step the head back onto a slot without a value and construct there
    have hlt : b.size < b.cap := Nat.lt_of_le_of_ne h.size_le hf
    have hxl : xs.length < b.cap := by rw [h.len_eq]; exact hlt
    obtain ⟨s, hs, hsd⟩ := h.dead_slot (b.cap - 1) (Nat.le_sub_one_of_lt hlt) (Nat.sub_lt hc Nat.one_pos)
    rw [hpl] at hs
    obtain ⟨junk, hv, hjl, hj⟩ := h.rot_eq
    obtain ⟨junk', r, rfl⟩ : ∃ junk' r, junk = junk' ++ [r] := by
      rcases List.eq_nil_or_concat junk with e | ⟨junk', r, e⟩
      · rw [e] at hjl; exact absurd hjl (Nat.ne_of_lt (Nat.sub_pos_of_lt hlt))
      · exact ⟨junk', r, e.trans List.concat_eq_append⟩
    have hrep : Rep ⟨(b.pos + b.cap - 1) % b.cap, b.size + 1, b.cap, b.data.set ((b.pos + b.cap - 1) % b.cap) (.live x)⟩
        (x :: xs) := by
      rw [← List.append_assoc] at hv
      refine Rep.of_rot (junk := junk') hdl (.inl hp') (by rw [← h.len_eq]; rfl) ?_
        (fun s hs => hj s (List.mem_append_left _ hs))
      show rot _ (b.data.set _ _) = _
      rw [rot_set_self h.data_len hp', rot_pred h.data_len hp hv]
      rfl
    rw [Deque.pushFront, if_pos hxl]
    refine ⟨_, ?_, hrep, rfl⟩
    unfold RB.emplaceFront
    rw [if_neg (overwriteCheck hpre), if_neg hf, construct_dead x hs hsd]
    show (do let r ← RB.front _; pure (_, r)) = _
    rw [front_ok hrep (List.cons_ne_nil _ _)]
    rfl

/-! ### pop_back / pop_front -/

theorem popBack_ok {b : RB α} {xs} (h : Rep b xs) (hne : xs ≠ []) :
    ∃ b', b.popBack = .ok (b', xs.getLast hne) ∧ Rep b' xs.dropLast ∧ b'.cap = b.cap := by
  have hl : 0 < xs.length := List.length_pos_iff.mpr hne
  have hs : 0 < b.size := h.len_eq ▸ hl
  have hlt : b.size - 1 < b.cap := Nat.lt_of_lt_of_le (Nat.sub_lt hs Nat.one_pos) h.size_le
  have hlast := h.live (b.size - 1) (by rw [h.len_eq]; exact Nat.sub_lt hs Nat.one_pos)
  obtain ⟨junk, hv, -, hj⟩ := h.rot_eq
  have hrep : Rep ⟨b.pos, b.size - 1, b.cap, b.data.set (b.phys (b.size - 1)) .shell⟩ xs.dropLast := by
    have hxm : (xs.dropLast.map Slot.live).length = b.size - 1 := by
      rw [List.length_map, List.length_dropLast, h.len_eq]
    rw [← List.dropLast_concat_getLast hne, List.map_append, List.append_assoc] at hv
    refine Rep.of_rot (junk := .shell :: junk) (h.set_len _ _)
      (.inl (h.pos_lt (Nat.lt_of_lt_of_le hs h.size_le))) (by rw [← h.len_eq, List.length_dropLast]) ?_
      (fun s hs => (List.mem_cons.mp hs).elim (fun e => e ▸ rfl) (hj s))
    show rot b.pos (b.data.set ((b.pos + (b.size - 1)) % b.cap) _) = _
    rw [rot_set h.data_len h.pos_le hlt, hv, List.set_append_right _ _ (Nat.le_of_eq hxm), hxm, Nat.sub_self]
    rfl
  refine ⟨_, ?_, hrep, rfl⟩
  unfold RB.popBack
  rw [if_neg (Nat.ne_of_gt hs)]
  show (do let (v, d) ← Mem.moveOut b.data (b.phys (b.size - 1)); pure (_, v)) = _
  rw [moveOut_live hlast, List.getLast_eq_getElem]
  simp only [h.len_eq]
  rfl

theorem popFront_ok {b : RB α} {xs} (h : Rep b xs) (hne : xs ≠ []) :
    ∃ b', b.popFront = .ok (b', xs.head hne) ∧ Rep b' xs.tail ∧ b'.cap = b.cap := by
  obtain ⟨y, ys, rfl⟩ := List.exists_cons_of_ne_nil hne
  have hs : 0 < b.size := h.len_eq ▸ Nat.zero_lt_succ _
  have hc : 0 < b.cap := Nat.lt_of_lt_of_le hs h.size_le
  have hp := h.pos_lt hc
  have h0 := h.live 0 (Nat.zero_lt_succ _)
  rw [phys_zero h hc] at h0
  obtain ⟨junk, hv, -, hj⟩ := h.rot_eq
  have hrep : Rep ⟨(b.pos + 1) % b.cap, b.size - 1, b.cap, b.data.set b.pos .shell⟩ ys := by
    have hdl := h.set_len b.pos .shell
    have hv' : rot b.pos (b.data.set b.pos .shell) = .shell :: (ys.map .live ++ junk) := by
      rw [rot_set_self h.data_len hp, hv]; rfl
    refine Rep.of_rot (junk := junk ++ [.shell]) hdl (.inl (Nat.mod_lt _ hc)) (by rw [← h.len_eq]; rfl) ?_
      (fun s hs => (List.mem_append.mp hs).elim (hj s) (fun e => List.mem_singleton.mp e ▸ rfl))
    rw [rot_succ hdl hp hv', List.append_assoc]
  refine ⟨_, ?_, hrep, rfl⟩
  unfold RB.popFront
  rw [if_neg (Nat.ne_of_gt hs), moveOut_live h0]
  rfl

end RB
end Tulz
