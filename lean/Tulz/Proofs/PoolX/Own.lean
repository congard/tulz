import Tulz.Proofs.ListSet
import Tulz.Proofs.PoolX.Inv
/-
  Task ownership in the ThreadPool model with expiring workers: inductive invariant `TInv` — each submitted task is in exactly one
  place (queued, in one worker's hands, destroyed), is run at most once, and is destroyed after its run or dropped unrun.
-/
namespace TPoolX

def Pc.task? : Pc → Option Task
  | .running t => some t
  | .ran t => some t
  | _ => none

def Wk.task? (w : Wk) : Option Task := w.pc.task?

/-- tasks in the workers' hands (taken from the queue, not yet deleted) -/
def hands (ws : List Wk) : List Task := ws.filterMap Wk.task?

def Owner.todo : Owner → List OwnerOp
  | .idle l | .spawn l | .notifyOne l | .stopNotify l | .join _ l | .clearQ l | .updNotify l | .updReap _ l => l

def tasksOf : List OwnerOp → List Task
  | [] => []
  | .start t :: l => t :: tasksOf l
  | _ :: l => tasksOf l

/-- `owned`, `runsnd`, `dest` are what C07 claims; the other clauses make them inductive: `fresh` (a task about to be submitted is
    new), `runsin` (a task that has run is in a worker's hands or destroyed, hence not queued: `workerTake` cannot run it again),
    `ranfin` (a task whose body has returned is recorded as finished before `workerDelete` destroys it). -/
structure TInv (s : State) : Prop where
  owned : (s.queue ++ hands s.ws ++ s.destroyed).Perm s.submitted
  fresh : (s.submitted ++ tasksOf s.owner.todo).Nodup
  runsnd : s.runs.Nodup
  runsin : ∀ t ∈ s.runs, t ∈ hands s.ws ∨ t ∈ s.destroyed
  dest : ∀ t ∈ s.destroyed, (t ∈ s.dropped ∧ t ∉ s.runs) ∨ t ∈ s.finished
  ranfin : ∀ wk ∈ s.ws, ∀ t, wk.pc = .ran t → t ∈ s.finished

theorem task?_wake (w : Wk) : (wakeAll w).task? = w.task? := by
  cases w with | mk pc last => cases pc <;> rfl

theorem hands_wake (ws : List Wk) : hands (ws.map wakeAll) = hands ws := by
  unfold hands
  rw [List.filterMap_map]
  exact congrArg (List.filterMap · ws) (funext task?_wake)

theorem awake_task_none {wk : Wk} (h : wk.pc.awake = true) : wk.task? = none := by
  cases wk with | mk pc last =>
  cases pc with
  | check | parked => rfl
  | _ => cases h

theorem hands_eq_nil {ws : List Wk} (h : ∀ wk ∈ ws, wk.pc = .finished) : hands ws = [] :=
  List.filterMap_eq_nil_iff.2 fun wk hwk => congrArg Pc.task? (h wk hwk)

theorem TInv.subnd {s : State} (T : TInv s) : s.submitted.Nodup := (List.nodup_append.1 T.fresh).1

theorem TInv.queue_fresh {s : State} (T : TInv s) {t : Task} (hq : t ∈ s.queue) : t ∉ hands s.ws ∧ t ∉ s.destroyed := by
  have nd := T.owned.nodup_iff.2 T.subnd
  rw [List.append_assoc] at nd
  have hd := (List.nodup_append.1 nd).2.2 t hq
  exact ⟨fun h => hd t (List.mem_append_left _ h) rfl, fun h => hd t (List.mem_append_right _ h) rfl⟩

theorem TInv.queue_not_run {s : State} (T : TInv s) {t : Task} (hq : t ∈ s.queue) : t ∉ s.runs :=
  fun hr => (T.runsin t hr).elim (T.queue_fresh hq).1 (T.queue_fresh hq).2

theorem tinv_init (max timeout prog) (hp : (tasksOf prog).Nodup) : TInv (init max timeout prog) :=
  ⟨.nil, hp, .nil, fun _ h => absurd h List.not_mem_nil, fun _ h => absurd h List.not_mem_nil, fun _ h => absurd h List.not_mem_nil⟩

/-- Steps that move no task: the workers' hands hold the same tasks, no worker newly arrives at `ran`, and what the owner still has
    to submit stays the same. -/
theorem TInv.frame {s : State} (T : TInv s) {ws : List Wk} {o : Owner} {r st : Bool} {p : List Nat} {n : Nat}
    (hh : (hands ws).Perm (hands s.ws)) (hr : ∀ wk ∈ ws, ∀ t, wk.pc = .ran t → t ∈ s.finished)
    (ho : tasksOf o.todo = tasksOf s.owner.todo) :
    TInv { s with running := r, pool := p, ws := ws, owner := o, now := n, stopped := st } :=
  ⟨((hh.append_left _).append_right _).trans T.owned, ho ▸ T.fresh, T.runsnd, fun t h => (T.runsin t h).imp hh.mem_iff.2 id,
   T.dest, hr⟩

theorem ran_set {ws : List Wk} {fin : List Task} {w : Nat} {x : Wk} (h : ∀ wk ∈ ws, ∀ t, wk.pc = .ran t → t ∈ fin)
    (hx : ∀ t, x.pc = .ran t → t ∈ fin) : ∀ wk ∈ ws.set w x, ∀ t, wk.pc = .ran t → t ∈ fin := by
  intro wk hwk
  rcases List.mem_or_eq_of_mem_set hwk with h' | rfl
  · exact h wk h'
  · exact hx

theorem ran_wake {ws : List Wk} {fin : List Task} (h : ∀ wk ∈ ws, ∀ t, wk.pc = .ran t → t ∈ fin) :
    ∀ wk ∈ ws.map wakeAll, ∀ t, wk.pc = .ran t → t ∈ fin := by
  intro wk hwk t ht
  obtain ⟨v, hv, rfl⟩ := List.mem_map.1 hwk
  refine h v hv t ?_
  cases v with | mk pc last =>
  cases pc with
  | ran => exact ht
  | _ => cases ht

/-- a worker's (or a notification's) step between two program points at which the worker holds no task -/
theorem TInv.idle {s : State} (T : TInv s) {w : Nat} {a x : Wk} {o : Owner} (hw : s.ws[w]? = some a) (ha : a.task? = none)
    (hx : x.task? = none) (ho : tasksOf o.todo = tasksOf s.owner.todo) : TInv { s with ws := s.ws.set w x, owner := o } := by
  refine T.frame ?_ (ran_set T.ranfin fun t ht => ?_) ho
  · have := List.filterMap_set_perm Wk.task? x hw
    rwa [ha, hx] at this
  · rw [Wk.task?, ht] at hx
    cases hx

/-- clear(): the queued tasks are destroyed without having run -/
theorem TInv.clear {s : State} (T : TInv s) {o : Owner} (st : Bool) (ho : tasksOf o.todo = tasksOf s.owner.todo) :
    TInv { destroyAll s with owner := o, stopped := st } := by
  refine ⟨?_, ho ▸ T.fresh, T.runsnd, fun t h => (T.runsin t h).imp id (List.mem_append_left _), ?_, T.ranfin⟩
  · show ([] ++ hands s.ws ++ (s.destroyed ++ s.queue)).Perm s.submitted
    rw [List.nil_append, ← List.append_assoc]
    exact List.perm_append_comm.trans ((List.append_assoc ..).symm ▸ T.owned)
  · intro t h
    show (t ∈ s.dropped ++ s.queue ∧ t ∉ s.runs) ∨ t ∈ s.finished
    rcases List.mem_append.1 h with h | h
    · exact (T.dest t h).imp (fun ⟨a, b⟩ => ⟨List.mem_append_left _ a, b⟩) id
    · exact Or.inl ⟨List.mem_append_right _ h, T.queue_not_run h⟩

theorem tinv_step {s t : State} (T : TInv s) (h : Step s t) : TInv t := by
  cases h with
  | spawnNo _ ho | spawnFail _ ho | notifyMiss _ ho | stop _ ho | joinOne _ _ _ ho | joinDone _ ho | updNoop _ ho
  | updBegin _ _ ho | reapYes _ _ _ ho | reapNo _ _ _ ho | reapDone _ ho | tick _ _ ho =>
    exact T.frame .rfl T.ranfin (ho ▸ rfl)
  | stopNotify _ ho | updNotify _ ho => exact T.frame (.of_eq (hands_wake _)) (ran_wake T.ranfin) (ho ▸ rfl)
  | spawnYes todo ho =>
    refine T.frame ?_ ?_ (ho ▸ rfl)
    · show (List.filterMap Wk.task? (s.ws ++ [_])).Perm _
      rw [List.filterMap_append]
      exact .of_eq (List.append_nil _)
    · intro wk hwk t ht
      rcases List.mem_append.1 hwk with h | h
      · exact T.ranfin wk h t ht
      · cases List.mem_singleton.1 h
        cases ht
  | notifyHit todo w wk ho hw hp => exact T.idle hw (congrArg Pc.task? hp) rfl (ho ▸ rfl)
  | workerExit w wk hw ha | workerExpire w wk hw ha | workerPark w wk hw ha => exact T.idle hw (awake_task_none ha) rfl rfl
  | workerFinish w wk hw hp => exact T.idle hw (congrArg Pc.task? hp) rfl rfl
  | clear todo ho | stopClear todo ho => exact T.clear _ (ho ▸ rfl)
  | start tk todo ho =>
    have hf := T.fresh
    rw [ho] at hf
    refine ⟨?_, ?_, T.runsnd, T.runsin, T.dest, T.ranfin⟩
    · show (s.queue ++ [tk] ++ hands s.ws ++ s.destroyed).Perm (s.submitted ++ [tk])
      have := T.owned
      rw [List.append_assoc] at this
      rw [List.append_assoc, List.append_assoc]
      exact List.perm_middle.trans ((this.cons tk).trans (List.perm_append_singleton ..).symm)
    · show (s.submitted ++ [tk] ++ tasksOf todo).Nodup
      rw [List.append_assoc]
      exact hf
  | workerTake w wk tk q hw ha hr hq =>
    have hmem : tk ∈ s.queue := hq ▸ List.mem_cons_self
    have hh : (hands (s.ws.set w { wk with pc := .running tk })).Perm (tk :: hands s.ws) := by
      have := List.filterMap_set_perm Wk.task? { wk with pc := .running tk } hw
      rwa [awake_task_none ha] at this
    refine ⟨?_, T.fresh, ?_, ?_, ?_, ?_⟩
    · show (q ++ hands (s.ws.set w { wk with pc := .running tk }) ++ s.destroyed).Perm s.submitted
      have := T.owned
      rw [hq] at this
      exact (((hh.append_left q).trans List.perm_middle).append_right _).trans this
    · -- a queued task is in nobody's hands and not destroyed, so by `runsin` it has not run
      exact (List.perm_append_singleton tk s.runs).nodup_iff.2 (List.nodup_cons.2 ⟨T.queue_not_run hmem, T.runsnd⟩)
    · intro t ht
      show t ∈ hands (s.ws.set w { wk with pc := .running tk }) ∨ t ∈ s.destroyed
      rcases List.mem_append.1 ht with h | h
      · exact (T.runsin t h).imp (fun h' => hh.mem_iff.2 (List.mem_cons_of_mem _ h')) id
      · cases List.mem_singleton.1 h
        exact Or.inl (hh.mem_iff.2 List.mem_cons_self)
    · intro t ht
      show (t ∈ s.dropped ∧ t ∉ s.runs ++ [tk]) ∨ t ∈ s.finished
      refine (T.dest t ht).imp (fun ⟨a, b⟩ => ⟨a, fun hm => ?_⟩) id
      rcases List.mem_append.1 hm with h | h
      · exact b h
      · cases List.mem_singleton.1 h
        exact (T.queue_fresh hmem).2 ht
    · exact ran_set T.ranfin nofun
  | workerRunEnd w wk tk hw hp =>
    have hh : (hands (s.ws.set w ⟨.ran tk, s.now⟩)).Perm (hands s.ws) := by
      have := List.filterMap_set_perm Wk.task? ⟨.ran tk, s.now⟩ hw
      rw [Wk.task?, hp] at this
      exact this.cons_inv
    refine ⟨((hh.append_left _).append_right _).trans T.owned, T.fresh, T.runsnd,
      fun t h => (T.runsin t h).imp hh.mem_iff.2 id, fun t h => (T.dest t h).imp id (List.mem_append_left _), ?_⟩
    refine ran_set (fun v hv t ht => List.mem_append_left _ (T.ranfin v hv t ht)) fun t ht => ?_
    cases ht
    exact List.mem_append_right _ List.mem_cons_self
  | workerDelete w wk tk hw hp =>
    have hh : (tk :: hands (s.ws.set w { wk with pc := .check })).Perm (hands s.ws) := by
      have := List.filterMap_set_perm Wk.task? { wk with pc := .check } hw
      rwa [Wk.task?, hp] at this
    refine ⟨?_, T.fresh, T.runsnd, ?_, ?_, ?_⟩
    · show (s.queue ++ hands (s.ws.set w { wk with pc := .check }) ++ (s.destroyed ++ [tk])).Perm s.submitted
      rw [← List.append_assoc]
      refine (List.perm_append_singleton ..).trans (.trans ?_ T.owned)
      rw [List.append_assoc, List.append_assoc]
      exact List.perm_middle.symm.trans ((hh.append_right _).append_left _)
    · intro t ht
      show t ∈ hands (s.ws.set w { wk with pc := .check }) ∨ t ∈ s.destroyed ++ [tk]
      rcases T.runsin t ht with h | h
      · rcases List.mem_cons.1 (hh.mem_iff.2 h) with rfl | h'
        · exact Or.inr (List.mem_append_right _ List.mem_cons_self)
        · exact Or.inl h'
      · exact Or.inr (List.mem_append_left _ h)
    · intro t ht
      show (t ∈ s.dropped ∧ t ∉ s.runs) ∨ t ∈ s.finished
      rcases List.mem_append.1 ht with h | h
      · exact T.dest t h
      · cases List.mem_singleton.1 h
        exact Or.inr (T.ranfin wk (List.mem_of_getElem? hw) tk hp)
    · exact ran_set T.ranfin nofun

theorem tinv_sstep {s t : State} (T : TInv s) (h : SStep s t) : TInv t := by
  cases h with
  | code hs => exact tinv_step T hs
  | spurious w wk hw hp => exact T.idle hw (congrArg Pc.task? hp) rfl rfl
  | envTick d => exact T.frame .rfl T.ranfin rfl

theorem reach_tinv {max timeout prog s} (hp : (tasksOf prog).Nodup) (h : Reach max timeout prog s) : TInv s := by
  induction h with
  | init => exact tinv_init _ _ _ hp
  | step _ hs ih => exact tinv_sstep ih hs

/-- Once stop() has returned (and until the next start) nothing is left: no thread in the pool, hence (`Inv.outside`) every thread
    completed and no task in a worker's hands; the queue is empty, so the destroyed tasks are exactly the submitted ones. -/
theorem quiescent {s : State} (I : Inv s) (T : TInv s) (hst : s.stopped = true) :
    s.pool = [] ∧ (∀ (w : Nat) (wk : Wk), s.ws[w]? = some wk → wk.pc = .finished) ∧ s.queue = [] ∧ s.destroyed.Perm s.submitted := by
  obtain ⟨hpool, hq⟩ := I.stopped_ok hst
  have hall : ∀ (w : Nat) (wk : Wk), s.ws[w]? = some wk → wk.pc = .finished :=
    fun w wk hw => I.finished_of_not_mem hw (hpool ▸ List.not_mem_nil)
  have hh : hands s.ws = [] := hands_eq_nil fun wk hwk =>
    have ⟨i, hi, e⟩ := List.getElem_of_mem hwk
    hall i wk (e ▸ List.getElem?_eq_getElem hi)
  have := T.owned
  rw [hq, hh] at this
  exact ⟨hpool, hall, hq, this⟩

end TPoolX
