import Tulz.Proofs.ListSet
import Tulz.Proofs.PoolX.Inv
/-
  Termination of `ThreadPool::stop()` with expiring workers.  Invariant `PInv` (the flag stays clear; after notify_all nobody is parked
  un-notified) gives progress: some step is always enabled while the owner is inside `stop()`.  A measure strictly decreases with
  every step of the code (and with every spurious wake-up) taken meanwhile, and a clock tick leaves it unchanged.  Together they bound
  the number of steps any execution can make before `stop()` returns.
-/
namespace TPoolX

/-- the owner is inside stop(): flag cleared … final clear() pending -/
def inStop (o : Owner) : Prop :=
  (∃ todo, o = .stopNotify todo) ∨ (∃ rem todo, o = .join rem todo) ∨ (∃ todo, o = .clearQ todo)

def Owner.stopping : Owner → Bool
  | .stopNotify _ | .join _ _ | .clearQ _ => true
  | _ => false

theorem inStop_iff {o : Owner} : inStop o ↔ o.stopping = true := by
  constructor
  · rintro (⟨_, rfl⟩ | ⟨_, _, rfl⟩ | ⟨_, rfl⟩) <;> rfl
  · cases o with
    | stopNotify todo => exact fun _ => Or.inl ⟨_, rfl⟩
    | join rem todo => exact fun _ => Or.inr (Or.inl ⟨_, _, rfl⟩)
    | clearQ todo => exact fun _ => Or.inr (Or.inr ⟨_, rfl⟩)
    | _ => exact nofun

/-- `flag`: `m_isRunning` stays false from stop()'s first critical section to its return (only start() sets it).
    `awake`: once stop() has notified, no worker is blocked without a pending notification — a worker can only park under the
    queue mutex with the flag still set. -/
structure PInv (s : State) : Prop where
  flag : s.owner.stopping = true → s.running = false
  awake : ∀ rem todo, s.owner = .join rem todo → ∀ wk ∈ s.ws, wk.pc ≠ .parked false

theorem pinv_out {t : State} (h : t.owner.stopping = false) : PInv t := by
  refine ⟨fun h' => ?_, fun rem todo ho => ?_⟩
  · rw [h] at h'
    cases h'
  · rw [ho] at h
    cases h

theorem PInv.worker {s : State} (P : PInv s) {w : Nat} {x : Wk} {q r f d : List Task}
    (hx : x.pc ≠ .parked false ∨ s.running = true) :
    PInv { s with queue := q, ws := s.ws.set w x, runs := r, finished := f, destroyed := d } := by
  refine ⟨P.flag, fun rem todo ho wk hwk => ?_⟩
  rcases List.mem_or_eq_of_mem_set hwk with h | rfl
  · exact P.awake rem todo ho wk h
  · exact hx.resolve_right fun hr => Bool.noConfusion ((P.flag (ho ▸ rfl)).symm.trans hr)

theorem wake_not_asleep (w : Wk) : (wakeAll w).pc ≠ .parked false := by
  cases w with | mk pc last => cases pc <;> nofun

theorem pinv_step {s t : State} (P : PInv s) (h : Step s t) : PInv t := by
  cases h with
  | start | spawnYes | spawnNo | spawnFail | notifyHit | notifyMiss | clear | stopClear | updNoop | updBegin | updNotify
  | reapYes | reapNo | reapDone | tick => exact pinv_out rfl
  | stop => exact ⟨fun _ => rfl, nofun⟩
  | stopNotify todo ho =>
    refine ⟨fun _ => P.flag (ho ▸ rfl), fun _ _ _ wk hwk => ?_⟩
    obtain ⟨v, _, rfl⟩ := List.mem_map.1 hwk
    exact wake_not_asleep v
  | joinOne w rem todo ho => exact ⟨fun _ => P.flag (ho ▸ rfl), fun _ _ _ => P.awake _ _ ho⟩
  | joinDone todo ho => exact ⟨fun _ => P.flag (ho ▸ rfl), nofun⟩
  | workerPark w wk hw ha hr => exact P.worker (.inr hr)
  | workerExit | workerTake | workerExpire | workerRunEnd | workerDelete | workerFinish => exact P.worker (.inl nofun)

theorem pinv_sstep {s t : State} (P : PInv s) (h : SStep s t) : PInv t := by
  cases h with
  | code hs => exact pinv_step P hs
  | spurious => exact P.worker (.inl nofun)
  | envTick => exact ⟨P.flag, P.awake⟩

theorem reach_pinv {max timeout prog s} (h : Reach max timeout prog s) : PInv s := by
  induction h with
  | init => exact pinv_out rfl
  | step _ hs ih => exact pinv_sstep ih hs

/-- The owner's own next step of stop() is enabled, except that `join` waits for the thread at the head of its list; that thread is
    in the pool, hence exists, and whatever it is doing (not parked un-notified: `PInv.awake`; flag clear: `PInv.flag`) it can step. -/
theorem stop_progress {s : State} (I : Inv s) (P : PInv s) (h : inStop s.owner) : ∃ t, Step s t := by
  rcases h with ⟨todo, ho⟩ | ⟨rem, todo, ho⟩ | ⟨todo, ho⟩
  · exact ⟨_, Step.stopNotify s todo ho⟩
  · cases rem with
    | nil => exact ⟨_, Step.joinDone s todo ho⟩
    | cons w rem =>
      have hlt : w < s.ws.length := I.valid w ((I.joining _ _ ho).2 w List.mem_cons_self)
      have hw : s.ws[w]? = some s.ws[w] := List.getElem?_eq_getElem hlt
      have hrun : s.running = false := P.flag (ho ▸ rfl)
      cases hp : s.ws[w].pc with
      | check => exact ⟨_, Step.workerExit s w _ hw (hp ▸ rfl) hrun⟩
      | parked n =>
        cases n with
        | true => exact ⟨_, Step.workerExit s w _ hw (hp ▸ rfl) hrun⟩
        | false => exact absurd hp (P.awake _ _ ho s.ws[w] (List.getElem_mem hlt))
      | running tk => exact ⟨_, Step.workerRunEnd s w _ tk hw hp⟩
      | ran tk => exact ⟨_, Step.workerDelete s w _ tk hw hp⟩
      | exited => exact ⟨_, Step.workerFinish s w _ hw hp⟩
      | finished => exact ⟨_, Step.joinOne s w rem todo ho (isFin_iff.2 ⟨_, hw, hp⟩)⟩
  · exact ⟨_, Step.stopClear s todo ho⟩

/-! ### the measure -/

/-- how many steps a worker can still make once the flag is cleared -/
def Pc.weight : Pc → Nat
  | .finished => 0
  | .exited => 1
  | .check => 2
  | .parked true => 2
  | .parked false => 3
  | .ran _ => 3
  | .running _ => 4

def wsWeight (ws : List Wk) : Nat := (ws.map (fun w => w.pc.weight)).sum

def ownerWeight (s : State) : Nat :=
  match s.owner with
  | .stopNotify _ => s.pool.length + 3
  | .join rem _ => rem.length + 2
  | .clearQ _ => 1
  | _ => 0

/-- the measure of `stop()` -/
def stopMeasure (s : State) : Nat := ownerWeight s + wsWeight s.ws

theorem wsWeight_set {ws : List Wk} {w : Nat} {a : Wk} (x : Wk) (h : ws[w]? = some a) :
    wsWeight (ws.set w x) + a.pc.weight = wsWeight ws + x.pc.weight := by
  obtain ⟨l₁, l₂, rfl, -, hs⟩ := List.set_split h
  rw [hs]
  simp only [wsWeight, List.map_append, List.map_cons, List.sum_append_nat, List.sum_cons]
  omega

theorem weight_wake_le (w : Wk) : (wakeAll w).pc.weight ≤ w.pc.weight := by
  cases w with | mk pc last =>
  cases pc with
  | parked n =>
    cases n with
    | true => exact Nat.le_refl _
    | false => exact Nat.le_succ _
  | _ => exact Nat.le_refl _

theorem wsWeight_wake_le (ws : List Wk) : wsWeight (ws.map wakeAll) ≤ wsWeight ws := by
  unfold wsWeight
  induction ws with
  | nil => exact Nat.le_refl _
  | cons b l ih => exact Nat.add_le_add (weight_wake_le b) ih

theorem awake_weight {p : Pc} (h : p.awake = true) : p.weight = 2 := by
  cases p with
  | check => rfl
  | parked n => cases n with
    | true => rfl
    | false => cases h
  | _ => cases h

/-- a worker's step to a program counter of smaller weight decreases the measure -/
theorem stopMeasure_worker {s : State} {w : Nat} {a x : Wk} {q r f d : List Task} (hw : s.ws[w]? = some a)
    (hlt : x.pc.weight < a.pc.weight) :
    stopMeasure { s with queue := q, ws := s.ws.set w x, runs := r, finished := f, destroyed := d } < stopMeasure s := by
  have := wsWeight_set x hw
  show ownerWeight s + wsWeight (s.ws.set w x) < ownerWeight s + wsWeight s.ws
  omega

/-- **every step of the code taken while the owner is inside `stop()` decreases the measure**: the owner's by its own weight
    (notify_all only lowers workers' weights), a worker's by the weight of its program counter — the flag is clear (`PInv.flag`), so it
    cannot take a task, park or expire. -/
theorem stopMeasure_step {s t : State} (P : PInv s) (hs : inStop s.owner) (h : Step s t) : stopMeasure t < stopMeasure s := by
  have hs := inStop_iff.1 hs
  have hrun := P.flag hs
  cases h with
  | start _ _ ho | spawnYes _ ho | spawnNo _ ho | spawnFail _ ho | notifyHit _ _ _ ho | notifyMiss _ ho | clear _ ho | stop _ ho
  | updNoop _ ho | updBegin _ _ ho | updNotify _ ho | reapYes _ _ _ ho | reapNo _ _ _ ho | reapDone _ ho | tick _ _ ho =>
    rw [ho] at hs
    cases hs
  | workerTake _ _ _ _ _ _ hr | workerExpire _ _ _ _ hr | workerPark _ _ _ _ hr =>
    rw [hrun] at hr
    cases hr
  | workerExit w wk hw ha => exact stopMeasure_worker hw (by rw [awake_weight ha]; exact Nat.lt_succ_self _)
  | workerRunEnd w wk tk hw hp | workerDelete w wk tk hw hp | workerFinish w wk hw hp =>
    exact stopMeasure_worker hw (by rw [hp]; exact Nat.lt_succ_self _)
  | stopNotify todo ho =>
    have := wsWeight_wake_le s.ws
    show ownerWeight { s with ws := s.ws.map wakeAll, owner := .join s.pool todo } + wsWeight (s.ws.map wakeAll) < ownerWeight s + _
    simp only [ownerWeight, ho]
    omega
  | joinOne w rem todo ho hf =>
    show ownerWeight { s with owner := .join rem todo } + wsWeight s.ws < ownerWeight s + _
    simp only [ownerWeight, ho, List.length_cons]
    omega
  | joinDone todo ho =>
    show ownerWeight { s with pool := [], owner := .clearQ todo } + wsWeight s.ws < ownerWeight s + _
    simp only [ownerWeight, ho, List.length_nil]
    omega
  | stopClear todo ho =>
    show ownerWeight { destroyAll s with owner := .idle todo, stopped := true } + wsWeight s.ws < ownerWeight s + _
    simp only [ownerWeight, ho]
    omega

/-- a spurious wake-up decreases the measure as well; a clock tick leaves it unchanged -/
theorem stopMeasure_sstep {s t : State} (P : PInv s) (hs : inStop s.owner) (h : SStep s t) :
    stopMeasure t ≤ stopMeasure s ∧ ((∃ d, t = { s with now := s.now + d }) ∨ stopMeasure t < stopMeasure s) := by
  cases h with
  | code hc => exact ⟨Nat.le_of_lt (stopMeasure_step P hs hc), Or.inr (stopMeasure_step P hs hc)⟩
  | spurious w wk hw hp =>
    have : stopMeasure { s with ws := s.ws.set w { wk with pc := .parked true } } < stopMeasure s :=
      stopMeasure_worker hw (by rw [hp]; exact Nat.lt_succ_self _)
    exact ⟨Nat.le_of_lt this, Or.inr this⟩
  | envTick d => exact ⟨Nat.le_refl _, Or.inl ⟨d, rfl⟩⟩

/-- the owner stays inside `stop()` or has just returned from it -/
theorem inStop_step {s t : State} (hs : inStop s.owner) (h : Step s t) :
    inStop t.owner ∨ (∃ todo, t.owner = .idle todo ∧ t.stopped = true) := by
  cases h with
  | start _ _ ho | spawnYes _ ho | spawnNo _ ho | spawnFail _ ho | notifyHit _ _ _ ho | notifyMiss _ ho | clear _ ho | stop _ ho
  | updNoop _ ho | updBegin _ _ ho | updNotify _ ho | reapYes _ _ _ ho | reapNo _ _ _ ho | reapDone _ ho | tick _ _ ho =>
    rw [ho] at hs
    cases inStop_iff.1 hs
  | stopNotify | joinOne | joinDone => exact Or.inl (inStop_iff.2 rfl)
  | stopClear todo => exact Or.inr ⟨todo, rfl, rfl⟩
  | workerExit | workerTake | workerExpire | workerPark | workerRunEnd | workerDelete | workerFinish => exact Or.inl hs

/-- a run of `n` code steps during which the owner is inside `stop()` before every step -/
inductive StopRun : State → Nat → State → Prop
  | refl (s) : StopRun s 0 s
  | step {s t u n} : inStop s.owner → Step s t → StopRun t n u → StopRun s (n + 1) u

/-- **`stop()` returns**: from a state in which the owner is inside `stop()`, no execution makes more than `stopMeasure s` steps of
    the code before `stop()` has returned — and by `stop_progress` a step is always possible until then.
    (Clock ticks do not count and do not change the measure; spurious wake-ups decrease it too: `stopMeasure_sstep`.) -/
theorem stop_bounded {s u : State} {n : Nat} (P : PInv s) (r : StopRun s n u) : n + stopMeasure u ≤ stopMeasure s := by
  induction r with
  | refl s => exact Nat.le_of_eq (Nat.zero_add _)
  | step hs hst _ ih =>
    have hlt := stopMeasure_step P hs hst
    have := ih (pinv_step P hst)
    omega

end TPoolX
