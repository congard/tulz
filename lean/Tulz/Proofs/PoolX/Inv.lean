import Tulz.Model.PoolX
/-
  The pool list of the ThreadPool model with expiring workers and update() (Tulz/Model/PoolX.lean): inductive invariant `Inv` — bound,
  no duplicates, valid indices, every thread outside the pool has completed, the joins of stop().

  Every step leaves most of the state alone.  Each invariant of this model (`Inv` here, `TInv` in Own, `PInv` in Stop) has a frame lemma
  stated about the record `{ s with … }` in which exactly the fields it does not constrain are free, so that a case of
  `inv_step`/`tinv_step`/`pinv_step` only says what the step does to the rest; cases with the same reason share one alternative.
-/
namespace TPoolX

/-! ### Thread::isFinished() -/

theorem isFin_iff {ws : List Wk} {i : Nat} : isFin ws i = true ↔ ∃ wk, ws[i]? = some wk ∧ wk.pc = .finished := by
  unfold isFin
  cases h : ws[i]? with
  | none => simp
  | some w =>
    constructor
    · intro hf
      refine ⟨w, rfl, ?_⟩
      cases hp : w.pc <;> simp [hp, Pc.isFinished] at hf ⊢
    · rintro ⟨wk, ⟨⟩, hp⟩
      exact congrArg Pc.isFinished hp

theorem isFin_set {ws : List Wk} {w i : Nat} {a x : Wk} (hw : ws[w]? = some a) (ha : a.pc ≠ .finished)
    (h : isFin ws i = true) : isFin (ws.set w x) i = true := by
  have hne : w ≠ i := by
    rintro rfl
    obtain ⟨wk, h1, h2⟩ := isFin_iff.1 h
    cases hw.symm.trans h1
    exact ha h2
  unfold isFin at h ⊢
  rwa [List.getElem?_set_ne hne]

theorem isFin_wake (ws : List Wk) (i : Nat) : isFin (ws.map wakeAll) i = isFin ws i := by
  unfold isFin
  rw [List.getElem?_map]
  cases ws[i]? with
  | none => rfl
  | some w => cases w with | mk pc last => cases pc <;> rfl

theorem isFin_append {ws : List Wk} {i : Nat} (x : Wk) (h : isFin ws i = true) : isFin (ws ++ [x]) i = true := by
  obtain ⟨wk, h1, _⟩ := isFin_iff.1 h
  unfold isFin at h ⊢
  rwa [List.getElem?_append_left (List.getElem?_eq_some_iff.1 h1).1]

theorem awake_ne_fin {p : Pc} (h : p.awake = true) : p ≠ .finished := by
  rintro rfl
  cases h

/-! ### the pool list -/

structure Inv (s : State) : Prop where
  len : s.pool.length ≤ s.max
  nodup : s.pool.Nodup
  valid : ∀ i ∈ s.pool, i < s.ws.length
  outside : ∀ w, w < s.ws.length → w ∉ s.pool → isFin s.ws w = true
  joining : ∀ rem todo, s.owner = .join rem todo →
    (∀ i ∈ s.pool, i ∈ rem ∨ isFin s.ws i = true) ∧ (∀ i ∈ rem, i ∈ s.pool)
  clearq : ∀ todo, s.owner = .clearQ todo → s.pool = []
  stopped_ok : s.stopped = true → s.pool = [] ∧ s.queue = []
  spawning : ∀ todo, s.owner = .spawn todo → s.stopped = false

theorem Inv.finished_of_not_mem {s : State} (I : Inv s) {w : Nat} {wk : Wk} (hw : s.ws[w]? = some wk) (hn : w ∉ s.pool) :
    wk.pc = .finished := by
  obtain ⟨wk', h1, h2⟩ := isFin_iff.1 (I.outside w (List.getElem?_eq_some_iff.1 hw).1 hn)
  cases hw.symm.trans h1
  exact h2

/-- the clause of `Inv` for the owner's program point -/
def ownerClause (s : State) : Owner → Prop
  | .join rem _ => (∀ i ∈ s.pool, i ∈ rem ∨ isFin s.ws i = true) ∧ (∀ i ∈ rem, i ∈ s.pool)
  | .clearQ _ => s.pool = []
  | .spawn _ => s.stopped = false
  | _ => True

/-- `Inv` with `joining`, `clearq`, `spawning` as one clause: after a step the owner's program point is a known constructor and
    `ownerClause s s.owner` reduces to the one clause that applies (or to `True`). -/
theorem Inv.intro {s : State} (len : s.pool.length ≤ s.max) (nodup : s.pool.Nodup) (valid : ∀ i ∈ s.pool, i < s.ws.length)
    (outside : ∀ w, w < s.ws.length → w ∉ s.pool → isFin s.ws w = true) (stopped_ok : s.stopped = true → s.pool = [] ∧ s.queue = [])
    (own : ownerClause s s.owner) : Inv s := by
  refine ⟨len, nodup, valid, outside, fun _ _ h => ?_, fun _ h => ?_, stopped_ok, fun _ h => ?_⟩ <;>
  · rw [h] at own
    exact own

/-- the owner's program points that `Inv` has a clause for (where `ownerClause` is not `True`) -/
def Owner.tracked : Owner → Bool
  | .join _ _ | .clearQ _ | .spawn _ => true
  | _ => false

/-- Steps that leave the pool list and `stopped` alone, keep completed threads completed, and leave the owner where it is or take it
    to a program point without a clause. -/
theorem Inv.frame {s : State} (I : Inv s) {q : List Task} {r : Bool} {ws : List Wk} {o : Owner} {n : Nat}
    {sb rn f d dr : List Task} (hl : ws.length = s.ws.length) (hf : ∀ i, isFin s.ws i = true → isFin ws i = true)
    (ho : o.tracked = false ∨ o = s.owner) (hq : s.queue = [] → q = []) :
    Inv { s with queue := q, running := r, ws := ws, owner := o, now := n, submitted := sb, runs := rn, finished := f,
                 destroyed := d, dropped := dr } := by
  have hown : ∀ {o'}, o'.tracked = true → o = o' → s.owner = o' := by
    rintro o' ht rfl
    rcases ho with h | h
    · rw [h] at ht; cases ht
    · exact h.symm
  refine ⟨I.len, I.nodup, fun i hi => hl ▸ I.valid i hi, fun w hw hn => hf w (I.outside w (hl ▸ hw) hn), ?_, ?_, ?_, ?_⟩
  · intro rem todo h
    obtain ⟨h1, h2⟩ := I.joining rem todo (hown rfl h)
    exact ⟨fun i hi => (h1 i hi).imp id (hf i), h2⟩
  · exact fun todo h => I.clearq todo (hown rfl h)
  · exact fun h => (I.stopped_ok h).imp id hq
  · exact fun todo h => I.spawning todo (hown rfl h)

/-- a worker's own step: one entry of `ws` changes, and that worker had not completed -/
theorem Inv.worker {s : State} (I : Inv s) {w : Nat} {a x : Wk} {q r f d : List Task} (hw : s.ws[w]? = some a)
    (ha : a.pc ≠ .finished) (hq : s.queue = [] → q = []) :
    Inv { s with queue := q, ws := s.ws.set w x, runs := r, finished := f, destroyed := d } :=
  I.frame (List.length_set ..) (fun _ => isFin_set hw ha) (.inr rfl) hq

theorem inv_init (max timeout prog) : Inv (init max timeout prog) :=
  .intro (Nat.zero_le _) .nil nofun nofun nofun trivial

theorem spawnOk_lt {s : State} (h : spawnOk s = true) : s.pool.length < s.max := by
  unfold spawnOk at h
  rw [Bool.and_eq_true] at h
  exact of_decide_eq_true h.1

theorem inv_step {s t : State} (I : Inv s) (h : Step s t) : Inv t := by
  cases h with
  | start => exact .intro I.len I.nodup I.valid I.outside nofun rfl
  | spawnNo | spawnFail | notifyMiss | stop | updNoop | updBegin | reapNo | reapDone | tick =>
    exact I.frame rfl (fun _ => id) (.inl rfl) id
  | clear => exact I.frame rfl (fun _ => id) (.inl rfl) (fun _ => rfl)
  | notifyHit todo w wk ho hw hp => exact I.frame (List.length_set ..) (fun _ => isFin_set hw (hp ▸ nofun)) (.inl rfl) id
  | updNotify => exact I.frame (List.length_map ..) (fun i h => (isFin_wake ..).trans h) (.inl rfl) id
  | workerExit w wk hw ha | workerExpire w wk hw ha | workerPark w wk hw ha => exact I.worker hw (awake_ne_fin ha) id
  | workerTake w wk tk q hw ha hr hq => exact I.worker hw (awake_ne_fin ha) (fun h => nomatch hq ▸ h)
  | workerRunEnd w wk tk hw hp | workerDelete w wk tk hw hp | workerFinish w wk hw hp => exact I.worker hw (hp ▸ nofun) id
  | spawnYes todo ho hok =>
    -- the new thread's index is `s.ws.length`, which `valid` keeps out of the pool
    have hnew : s.ws.length ∉ s.pool := fun h => Nat.lt_irrefl _ (I.valid _ h)
    refine .intro ?_ ?_ ?_ ?_ (fun h => Bool.noConfusion ((I.spawning _ ho).symm.trans h)) trivial
    · show (s.pool ++ [s.ws.length]).length ≤ s.max
      rw [List.length_append]
      exact spawnOk_lt hok
    · exact (List.perm_append_singleton ..).nodup_iff.2 (List.nodup_cons.2 ⟨hnew, I.nodup⟩)
    · intro i hi
      show i < (s.ws ++ [_]).length
      rw [List.length_append]
      rcases List.mem_append.1 hi with h | h
      · exact Nat.lt_add_right _ (I.valid i h)
      · cases List.mem_singleton.1 h
        exact Nat.lt_succ_self _
    · intro w hw hn
      have hw : w < (s.ws ++ [_]).length := hw
      rw [List.length_append] at hw
      have hne : w ≠ s.ws.length := fun h => hn (List.mem_append_right _ (List.mem_singleton.2 h))
      exact isFin_append _ (I.outside w (Nat.lt_of_le_of_ne (Nat.le_of_lt_succ hw) hne) fun h => hn (List.mem_append_left _ h))
  | stopNotify todo ho =>
    refine .intro I.len I.nodup (fun i hi => (List.length_map ..).symm ▸ I.valid i hi) ?_ I.stopped_ok
      ⟨fun i hi => Or.inl hi, fun i hi => hi⟩
    exact fun w hw hn => (isFin_wake ..).trans (I.outside w ((List.length_map ..) ▸ hw) hn)
  | joinOne w rem todo ho hf =>
    obtain ⟨h1, h2⟩ := I.joining _ _ ho
    refine .intro I.len I.nodup I.valid I.outside I.stopped_ok ⟨fun i hi => ?_, fun i hi => h2 i (List.mem_cons_of_mem _ hi)⟩
    rcases h1 i hi with h | h
    · rcases List.mem_cons.1 h with rfl | h
      · exact Or.inr hf
      · exact Or.inl h
    · exact Or.inr h
  | joinDone todo ho =>
    -- every thread of the pool has been joined (`joining` with nothing left to join), so all threads have completed
    refine .intro (Nat.zero_le _) .nil (fun _ h => absurd h List.not_mem_nil) ?_ (fun h => ⟨rfl, (I.stopped_ok h).2⟩) rfl
    intro w hw _
    by_cases hin : w ∈ s.pool
    · exact ((I.joining _ _ ho).1 w hin).resolve_left nofun
    · exact I.outside w hw hin
  | stopClear todo ho => exact .intro I.len I.nodup I.valid I.outside (fun _ => ⟨I.clearq _ ho, rfl⟩) trivial
  | reapYes i rem todo ho hf =>
    refine .intro (Nat.le_trans (List.length_filter_le ..) I.len) (I.nodup.filter _) (fun j hj => I.valid j (List.mem_filter.1 hj).1)
      ?_ (fun h => ?_) trivial
    · intro w hw hn
      by_cases hin : w ∈ s.pool
      · -- listed before and not after: `w` is the erased entry, which had completed
        by_cases e : w = i
        · exact e ▸ hf
        · exact absurd (List.mem_filter.2 ⟨hin, (bne_iff_ne.2 e : isNot i w = true)⟩) hn
      · exact I.outside w hw hin
    · obtain ⟨h1, h2⟩ := I.stopped_ok h
      exact ⟨congrArg (List.filter (isNot i)) h1, h2⟩

theorem inv_sstep {s t : State} (I : Inv s) (h : SStep s t) : Inv t := by
  cases h with
  | code hs => exact inv_step I hs
  | spurious w wk hw hp => exact I.worker hw (hp ▸ nofun) id
  | envTick d => exact I.frame rfl (fun _ => id) (.inr rfl) id

theorem step_max {s t : State} (h : Step s t) : t.max = s.max := by cases h <;> rfl

theorem sstep_max {s t : State} (h : SStep s t) : t.max = s.max := by
  cases h with
  | code hs => exact step_max hs
  | spurious => rfl
  | envTick => rfl

theorem reach_inv {max timeout prog s} (h : Reach max timeout prog s) : Inv s ∧ s.max = max := by
  induction h with
  | init => exact ⟨inv_init _ _ _, rfl⟩
  | step _ hs ih => exact ⟨inv_sstep ih.1 hs, (sstep_max hs).trans ih.2⟩

end TPoolX
