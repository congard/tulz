import Tulz.Model.PoolX
/-
  The executable step function of the ThreadPool model with expiring workers (what the driver replays traces on) only takes steps of
  the relation `Step` the theorems quantify over.
-/
namespace TPoolX

theorem noneAsleep_iff {ws : List Wk} : noneAsleep ws = true ↔ ∀ (w : Nat) (wk : Wk), ws[w]? = some wk → wk.pc ≠ .parked false := by
  unfold noneAsleep
  rw [List.all_eq_true]
  constructor
  · intro h w wk hw e
    have := h _ (List.mem_of_getElem? hw)
    simp [asleep, e] at this
  · intro h x hx
    obtain ⟨i, hi, rfl⟩ := List.getElem_of_mem hx
    have := h i _ (List.getElem?_eq_getElem hi)
    simp only [asleep, Bool.not_eq_true', beq_eq_false_iff_ne, ne_eq]
    exact this

theorem awakeStep_step {s : State} {w : Nat} {wk : Wk} (hw : s.ws[w]? = some wk) (ha : wk.pc.awake = true) :
    Step s (awakeStep s w wk) := by
  unfold awakeStep
  by_cases hr : s.running = false
  · rw [if_pos hr]
    exact Step.workerExit s w wk hw ha hr
  · rw [if_neg hr]
    have hr := Bool.of_not_eq_false hr
    split
    · rename_i t q hq
      exact Step.workerTake s w wk t q hw ha hr hq
    · rename_i hq
      by_cases he : expired s wk = true
      · rw [if_pos he]
        exact Step.workerExpire s w wk hw ha hr hq he
      · rw [if_neg he]
        exact Step.workerPark s w wk hw ha hr hq (Bool.of_not_eq_true he)

theorem ownerStep?_sound {s t : State} {wk : Option Nat} (h : ownerStep? s wk = some t) : Step s t := by
  unfold ownerStep? at h
  split at h
  · rename_i tk todo ho; cases h; exact Step.start s tk todo ho
  · rename_i todo ho; cases h; exact Step.clear s todo ho
  · rename_i todo ho; cases h; exact Step.stop s todo ho
  · rename_i todo ho
    split at h
    · rename_i ht; cases h; exact Step.updNoop s todo ho ht
    · rename_i T ht; cases h; exact Step.updBegin s todo T ho ht
  · rename_i d todo ho; cases h; exact Step.tick s d todo ho
  · rename_i todo ho
    split at h
    · rename_i hok; cases h; exact Step.spawnYes s todo ho hok
    · rename_i hok; cases h; exact Step.spawnNo s todo ho (Bool.of_not_eq_true hok)
  · rename_i todo w ho
    split at h
    · rename_i wk' hw
      split at h
      · rename_i hp; cases h; exact Step.notifyHit s todo w wk' ho hw hp
      · cases h
    · cases h
  · rename_i todo ho
    split at h
    · rename_i hn; cases h; exact Step.notifyMiss s todo ho (noneAsleep_iff.1 hn)
    · cases h
  · rename_i todo ho; cases h; exact Step.stopNotify s todo ho
  · rename_i w rem todo ho
    split at h
    · rename_i hf; cases h; exact Step.joinOne s w rem todo ho hf
    · cases h
  · rename_i todo ho; cases h; exact Step.joinDone s todo ho
  · rename_i todo ho; cases h; exact Step.stopClear s todo ho
  · rename_i todo ho; cases h; exact Step.updNotify s todo ho
  · rename_i i rem todo ho
    split at h
    · rename_i hf; cases h; exact Step.reapYes s i rem todo ho hf
    · rename_i hf; cases h; exact Step.reapNo s i rem todo ho (Bool.of_not_eq_true hf)
  · rename_i todo ho; cases h; exact Step.reapDone s todo ho
  · cases h

theorem workerStep?_sound {s t : State} {w : Nat} (h : workerStep? s w = some t) : Step s t := by
  unfold workerStep? at h
  split at h
  · cases h
  · rename_i wk hw
    split at h
    · rename_i hp; cases h; exact awakeStep_step hw (by rw [hp]; rfl)
    · rename_i hp; cases h; exact awakeStep_step hw (by rw [hp]; rfl)
    · cases h
    · rename_i tk hp; cases h; exact Step.workerRunEnd s w wk tk hw hp
    · rename_i tk hp; cases h; exact Step.workerDelete s w wk tk hw hp
    · rename_i hp; cases h; exact Step.workerFinish s w wk hw hp
    · cases h

/-- the executable step function only takes steps of the relation the theorems quantify over -/
theorem xstep?_sound {s t : State} {l : Label} (h : xstep? s l = some t) : Step s t := by
  cases l with
  | owner wk => exact ownerStep?_sound h
  | worker w => exact workerStep?_sound h

theorem xrun?_reach {max timeout prog} {s t : State} {ls : List Label} (h : Reach max timeout prog s)
    (hr : xrun? s ls = some t) : Reach max timeout prog t := by
  induction ls generalizing s with
  | nil => cases hr; exact h
  | cons l ls ih =>
    unfold xrun? at hr
    split at hr
    · rename_i u hu; exact ih (h.code (xstep?_sound hu)) hr
    · cases hr

end TPoolX
