import Tulz.Proofs.RingBufferResize
/-
  The simulation between the slot-level store and the bounded-deque store: every valid operation
  succeeds on the model, returns the deque's answer and re-establishes the relation.
-/
namespace Tulz
variable {α : Type}

def EntRel (a : Nat × Bool × RB α) (c : Nat × Bool × Deque α) : Prop :=
  a.1 = c.1 ∧ a.2.1 = c.2.1 ∧ RB.Rep a.2.2 c.2.2.items ∧ a.2.2.cap = c.2.2.cap

/-- pointwise relation between two lists (core Lean has no `Forall₂`) -/
inductive Rel2 {β γ : Type} (R : β → γ → Prop) : List β → List γ → Prop where
  | nil : Rel2 R [] []
  | cons {a c as cs} : R a c → Rel2 R as cs → Rel2 R (a :: as) (c :: cs)

/-- the slot-level store represents the deque store, entry by entry -/
def StoreRep (s : RbStore α) (t : DqStore α) : Prop := Rel2 EntRel s t

namespace StoreRep

theorem find_none {s : RbStore α} {t : DqStore α} (h : StoreRep s t) (id : Nat) (hn : t.find id = none) :
    s.find id = none := by
  induction h with
  | nil => rfl
  | @cons a c s' t' hab _ ih =>
    obtain ⟨h1, -, -, -⟩ := hab
    simp only [Assoc.find, List.find?_cons] at hn ⊢
    rw [h1]
    cases he : (c.1 == id) with
    | true => simp [he] at hn
    | false =>
      simp only [he] at hn ⊢
      exact ih hn

theorem find_some {s : RbStore α} {t : DqStore α} (h : StoreRep s t) (id : Nat) (ow : Bool) (d : Deque α)
    (hf : t.find id = some (ow, d)) : ∃ b, s.find id = some (ow, b) ∧ RB.Rep b d.items ∧ b.cap = d.cap := by
  induction h with
  | nil => simp [Assoc.find] at hf
  | @cons a c s' t' hab _ ih =>
    obtain ⟨h1, h2, h3, h4⟩ := hab
    simp only [Assoc.find, List.find?_cons] at hf ⊢
    rw [h1]
    cases he : (c.1 == id) with
    | true =>
      simp only [he, Option.map_some, Option.some.injEq] at hf ⊢
      have e1 : c.2.1 = ow := by rw [hf]
      have e2 : c.2.2 = d := by rw [hf]
      refine ⟨a.2.2, ?_, ?_, ?_⟩
      · rw [← e1, ← h2]
      · rw [← e2]; exact h3
      · rw [← e2]; exact h4
    | false =>
      simp only [he] at hf ⊢
      exact ih hf

theorem put {s : RbStore α} {t : DqStore α} (h : StoreRep s t) (id : Nat) (ow : Bool) (b : RB α) (d : Deque α)
    (hr : RB.Rep b d.items) (hc : b.cap = d.cap) : StoreRep (s.put id (ow, b)) (t.put id (ow, d)) := by
  induction h with
  | nil => exact Rel2.cons ⟨rfl, rfl, hr, hc⟩ Rel2.nil
  | @cons a c s' t' hab hrest ih =>
    obtain ⟨h1, h2, h3, h4⟩ := hab
    simp only [Assoc.put]
    rw [h1]
    cases he : (c.1 == id) with
    | true =>
      simp only [if_true]
      exact Rel2.cons ⟨rfl, rfl, hr, hc⟩ hrest
    | false =>
      simp only [Bool.false_eq_true, if_false]
      exact Rel2.cons ⟨h1, h2, h3, h4⟩ ih

theorem del {s : RbStore α} {t : DqStore α} (h : StoreRep s t) (id : Nat) : StoreRep (s.del id) (t.del id) := by
  induction h with
  | nil => exact Rel2.nil
  | @cons a c s' t' hab hrest ih =>
    obtain ⟨h1, h2, h3, h4⟩ := hab
    simp only [Assoc.del, List.filter_cons]
    rw [h1]
    cases he : (c.1 == id) with
    | true =>
      simp only [Bool.not_true, Bool.false_eq_true, if_false]
      exact ih
    | false =>
      simp only [Bool.not_false, if_true]
      exact Rel2.cons ⟨h1, h2, h3, h4⟩ ih

end StoreRep

theorem Deque.pushBack_cap (d : Deque α) (x : α) : (d.pushBack x).cap = d.cap := by
  unfold Deque.pushBack; split <;> rfl

theorem Deque.pushFront_cap (d : Deque α) (x : α) : (d.pushFront x).cap = d.cap := by
  unfold Deque.pushFront; split <;> rfl

theorem StoreRep.fresh_ok {s : RbStore α} {t : DqStore α} (h : StoreRep s t) (id : Nat) (hn : t.find id = none) :
    RbStore.fresh s id = .ok () := by
  rw [RbStore.fresh, h.find_none id hn]; rfl

theorem StoreRep.need_ok {s : RbStore α} {t : DqStore α} (h : StoreRep s t) (id : Nat) (ow : Bool) (d : Deque α)
    (hf : t.find id = some (ow, d)) : ∃ b, RbStore.need s id = .ok (ow, b) ∧ RB.Rep b d.items ∧ b.cap = d.cap := by
  obtain ⟨b, hb, hr⟩ := h.find_some id ow d hf
  exact ⟨b, by rw [RbStore.need, hb]; rfl, hr⟩

theorem RbStore.run_cons_ok [DecidableEq α] {s s1 s2 : RbStore α} {op : RbOp α} {ops : List (RbOp α)} {o : RbOut α}
    {os : List (RbOut α)} (h1 : RbStore.step s op = .ok (s1, o)) (h2 : RbStore.run s1 ops = .ok (s2, os)) :
    RbStore.run s (op :: ops) = .ok (s2, o :: os) := by
  rw [RbStore.run, h1]
  show (do let r ← RbStore.run s1 ops; pure (r.1, o :: r.2)) = _
  rw [h2]
  rfl

section
-- the plumbing of the `Except` monad, unfolded by every `simp` that runs a model step
attribute [local simp] bind Except.bind pure Except.pure

/-- **one-step refinement**: a valid operation never fails on the slot model, answers like the bounded deque,
    and the new stores are again related -/
theorem step_refines [DecidableEq α] {s : RbStore α} {t : DqStore α} (h : StoreRep s t) (op : RbOp α)
    (hv : DqStore.valid t op) :
    ∃ s', RbStore.step s op = .ok (s', (DqStore.step t op).2) ∧ StoreRep s' (DqStore.step t op).1 := by
  cases op with
  | new id cap ow =>
    exact ⟨_, by simp [RbStore.step, h.fresh_ok id hv.1, DqStore.step], h.put id ow _ ⟨cap, []⟩ (RB.rep_new cap) rfl⟩
  | init id ow cap vs =>
    obtain ⟨hn, -, hcap⟩ := hv
    obtain ⟨b, hb, hrep, hbc⟩ := RB.ofList_ok vs cap hcap
    exact ⟨_, by simp [RbStore.step, h.fresh_ok id hn, hb, DqStore.step], h.put id ow b ⟨_, vs⟩ hrep hbc⟩
  | pushBack id x =>
    obtain ⟨ow, d, hf, hc1, hpre⟩ := hv
    obtain ⟨b, hbf, hrep, hcap⟩ := h.need_ok id ow d hf
    obtain ⟨b', hb', hrep', hcap'⟩ := RB.emplaceBack_ok ow x hrep (hcap ▸ hc1)
      (hpre.imp_right fun h1 => by rw [← hrep.len_eq, hcap]; exact h1)
    rw [hcap] at hrep' hcap'
    simp only [DqStore.step, hf]
    exact ⟨_, by simp [RbStore.step, hbf, hb'], h.put id ow b' _ hrep' (hcap'.trans (d.pushBack_cap x).symm)⟩
  | pushFront id x =>
    obtain ⟨ow, d, hf, hc1, hpre⟩ := hv
    obtain ⟨b, hbf, hrep, hcap⟩ := h.need_ok id ow d hf
    obtain ⟨b', hb', hrep', hcap'⟩ := RB.emplaceFront_ok ow x hrep (hcap ▸ hc1)
      (hpre.imp_right fun h1 => by rw [← hrep.len_eq, hcap]; exact h1)
    rw [hcap] at hrep' hcap'
    simp only [DqStore.step, hf]
    exact ⟨_, by simp [RbStore.step, hbf, hb'], h.put id ow b' _ hrep' (hcap'.trans (d.pushFront_cap x).symm)⟩
  | popBack id =>
    obtain ⟨ow, d, hf, hne⟩ := hv
    obtain ⟨b, hbf, hrep, hcap⟩ := h.need_ok id ow d hf
    obtain ⟨b', hb', hrep', hcap'⟩ := RB.popBack_ok hrep hne
    simp only [DqStore.step, hf, List.getLast?_eq_some_getLast hne]
    exact ⟨_, by simp [RbStore.step, hbf, hb'], h.put id ow b' _ hrep' (hcap'.trans hcap)⟩
  | popFront id =>
    obtain ⟨ow, d, hf, hne⟩ := hv
    obtain ⟨b, hbf, hrep, hcap⟩ := h.need_ok id ow d hf
    obtain ⟨b', hb', hrep', hcap'⟩ := RB.popFront_ok hrep hne
    simp only [DqStore.step, hf, List.head?_eq_some_head hne]
    exact ⟨_, by simp [RbStore.step, hbf, hb'], h.put id ow b' _ hrep' (hcap'.trans hcap)⟩
  | front id =>
    obtain ⟨ow, d, hf, hne⟩ := hv
    obtain ⟨b, hbf, hrep, -⟩ := h.need_ok id ow d hf
    simp only [DqStore.step, hf, List.head?_eq_some_head hne]
    exact ⟨s, by simp [RbStore.step, hbf, RB.front_ok hrep hne], h⟩
  | back id =>
    obtain ⟨ow, d, hf, hne⟩ := hv
    obtain ⟨b, hbf, hrep, -⟩ := h.need_ok id ow d hf
    simp only [DqStore.step, hf, List.getLast?_eq_some_getLast hne]
    exact ⟨s, by simp [RbStore.step, hbf, RB.back_ok hrep hne], h⟩
  | get id i =>
    obtain ⟨ow, d, hf, hi⟩ := hv
    obtain ⟨b, hbf, hrep, -⟩ := h.need_ok id ow d hf
    simp only [DqStore.step, hf, List.getElem?_eq_getElem hi]
    exact ⟨s, by simp [RbStore.step, hbf, RB.get_ok hrep i hi], h⟩
  | iter id =>
    obtain ⟨⟨ow, d⟩, hf⟩ := hv
    obtain ⟨b, hbf, hrep, -⟩ := h.need_ok id ow d hf
    simp only [DqStore.step, hf]
    exact ⟨s, by simp [RbStore.step, hbf, RB.toList_ok hrep], h⟩
  | size id =>
    obtain ⟨⟨ow, d⟩, hf⟩ := hv
    obtain ⟨b, hbf, hrep, -⟩ := h.need_ok id ow d hf
    simp only [DqStore.step, hf]
    exact ⟨s, by simp [RbStore.step, hbf, hrep.len_eq], h⟩
  | capacity id =>
    obtain ⟨⟨ow, d⟩, hf⟩ := hv
    obtain ⟨b, hbf, -, hcap⟩ := h.need_ok id ow d hf
    simp only [DqStore.step, hf]
    exact ⟨s, by simp [RbStore.step, hbf, hcap], h⟩
  | resize id nc =>
    obtain ⟨ow, d, hf, hc1, -⟩ := hv
    obtain ⟨b, hbf, hrep, hcap⟩ := h.need_ok id ow d hf
    obtain ⟨b', k, hb', hrep', hcap'⟩ := RB.resize_ok hrep (hcap ▸ hc1) nc
    simp only [DqStore.step, hf]
    exact ⟨_, by simp [RbStore.step, hbf, hb'], h.put id ow b' (d.resize nc) hrep' hcap'⟩
  | copy dst src =>
    obtain ⟨hn, ⟨ow, d⟩, hf⟩ := hv
    obtain ⟨b, hbf, hrep, hcap⟩ := h.need_ok src ow d hf
    obtain ⟨c, hc, hrepc, hcapc⟩ := RB.copyFrom_ok hrep
    simp only [DqStore.step, hf]
    exact ⟨_, by simp [RbStore.step, h.fresh_ok dst hn, hbf, hc], h.put dst ow c d hrepc (hcapc.trans hcap)⟩
  | cassign dst src =>
    obtain ⟨⟨⟨owd, dd⟩, hfd⟩, ⟨ows, ds⟩, hfs⟩ := hv
    obtain ⟨bd, hbd, hrepd, -⟩ := h.need_ok dst owd dd hfd
    obtain ⟨bs, hbs, hreps, hcaps⟩ := h.need_ok src ows ds hfs
    simp only [DqStore.step, hfd, hfs]
    by_cases he : dst = src
    · rw [if_pos he]
      exact ⟨s, by simp [RbStore.step, hbs, he], h⟩
    · obtain ⟨c, hc, hrepc, hcapc⟩ := RB.copyAssign_ok hrepd hreps
      rw [if_neg he]
      exact ⟨_, by simp [RbStore.step, hbd, hbs, he, hc], h.put dst owd c ds hrepc (hcapc.trans hcaps)⟩
  | mctor dst src =>
    obtain ⟨hn, ⟨ow, d⟩, hf⟩ := hv
    obtain ⟨b, hbf, hrep, hcap⟩ := h.need_ok src ow d hf
    simp only [DqStore.step, hf]
    exact ⟨_, by simp [RbStore.step, h.fresh_ok dst hn, hbf],
      (h.put src ow RB.zombie ⟨0, []⟩ RB.rep_zombie rfl).put dst ow b d hrep hcap⟩
  | massign dst src =>
    obtain ⟨⟨⟨owd, dd⟩, hfd⟩, ⟨ows, ds⟩, hfs⟩ := hv
    obtain ⟨bd, hbd, hrepd, hcapd⟩ := h.need_ok dst owd dd hfd
    obtain ⟨bs, hbs, hreps, hcaps⟩ := h.need_ok src ows ds hfs
    simp only [DqStore.step, hfd, hfs]
    by_cases he : dst = src
    · rw [if_pos he]
      exact ⟨s, by simp [RbStore.step, hbs, he], h⟩
    · rw [if_neg he]
      exact ⟨_, by simp [RbStore.step, hbd, hbs, he], (h.put dst owd bs ds hreps hcaps).put src ows bd dd hrepd hcapd⟩
  | eq a b =>
    obtain ⟨⟨⟨owa, da⟩, hfa⟩, ⟨owb, db⟩, hfb⟩ := hv
    obtain ⟨ba, hba, hrepa, -⟩ := h.need_ok a owa da hfa
    obtain ⟨bb, hbb, hrepb, -⟩ := h.need_ok b owb db hfb
    simp only [DqStore.step, hfa, hfb]
    exact ⟨s, by simp [RbStore.step, hba, hbb, RB.eq_ok hrepa hrepb], h⟩
  | drop id =>
    obtain ⟨⟨ow, d⟩, hf⟩ := hv
    obtain ⟨b, hbf, hrep, -⟩ := h.need_ok id ow d hf
    obtain ⟨d', hd', -⟩ := RB.destroyAll_ok hrep
    exact ⟨_, by simp [RbStore.step, hbf, hd', DqStore.step], h.del id⟩

end

/-- **C09**: the values alive anywhere in the store are exactly the contents of the deques -/
theorem StoreRep.liveVals_perm {s : RbStore α} {t : DqStore α} (h : StoreRep s t) :
    (RbStore.liveVals s).Perm (DqStore.allItems t) := by
  induction h with
  | nil => exact List.Perm.refl _
  | @cons a c s' t' hab _ ih =>
    simp only [RbStore.liveVals, DqStore.allItems, List.flatMap_cons] at ih ⊢
    exact List.Perm.append hab.2.2.1.liveVals_perm ih

end Tulz
