import Tulz.Model.Locale
/-! Lemmas for C19 (LocaleInfo::get).  Everything here is generic in the two tables; the table facts are
    hypotheses (`LangFacts`, `CountryFacts`) that Props/C19.lean discharges by `decide +kernel` over the
    regenerated tables, through the checkers of Proofs/LocaleCheck.lean. -/
namespace Tulz.Locale
open List

/-! ## strstr with a one-byte needle -/

theorem bne_of_not_mem {c : Nat} {q : Bytes} (h : c ∉ q) : ∀ a ∈ q, (a != c) = true :=
  fun _ m => bne_iff_ne.2 fun e => h (e ▸ m)

theorem takeWhile_ne_of_not_mem (c : Nat) (s : Bytes) (h : c ∉ s) : s.takeWhile (· != c) = s := by
  have := takeWhile_append_of_pos (l₂ := []) (bne_of_not_mem h)
  rwa [append_nil, takeWhile_nil, append_nil] at this

theorem takeWhile_append_stop (c : Nat) (q r : Bytes) : (q ++ c :: r).takeWhile (· != c) = q.takeWhile (· != c) := by
  induction q with
  | nil => simp
  | cons b bs ih =>
    by_cases hb : b = c
    · simp [hb]
    · simp [hb, ih]

/-- the cut at the first `c` -/
theorem takeWhile_split (c : Nat) (q r : Bytes) (h : c ∉ q) : (q ++ c :: r).takeWhile (· != c) = q := by
  rw [takeWhile_append_stop, takeWhile_ne_of_not_mem c q h]

theorem length_takeWhile_append_lt (c : Nat) (q r : Bytes) (h : c ∈ q) : ((q ++ r).takeWhile (· != c)).length < q.length := by
  obtain ⟨a, b, rfl, ha⟩ := eq_append_cons_of_mem h
  rw [append_assoc, cons_append, takeWhile_split c a _ ha, length_append, length_cons]
  exact Nat.lt_add_of_pos_right (Nat.succ_pos _)

theorem not_mem_takeWhile_ne (c : Nat) (s : Bytes) : c ∉ s.takeWhile (· != c) := by
  induction s with
  | nil => simp
  | cons b bs ih =>
    by_cases hb : b = c
    · simp [hb]
    · have hc : ¬ c = b := fun e => hb e.symm
      simp [hb, hc, ih]

theorem idxOf?_eq (c : Nat) (s : Bytes) :
    idxOf? c s = if c ∈ s then some (s.takeWhile (· != c)).length else none := by
  induction s with
  | nil => simp [idxOf?]
  | cons b bs ih =>
    by_cases hb : b = c
    · subst hb; simp [idxOf?]
    · have hc : ¬ c = b := fun e => hb e.symm
      by_cases hm : c ∈ bs
      · simp [idxOf?, hb, ih, hm]
      · simp [idxOf?, hb, ih, hm, hc]

theorem dotOffset_eq (s : Bytes) : dotOffset s = (s.takeWhile (· != dot)).length := by
  unfold dotOffset
  rw [idxOf?_eq]
  by_cases h : dot ∈ s
  · rw [if_pos h]
  · rw [if_neg h, takeWhile_ne_of_not_mem dot s h]

theorem langPart_append (L R : Bytes) (hL : underscore ∉ L) : langPart (L ++ underscore :: R) = L :=
  takeWhile_split underscore L R hL

theorem afterUnderscore_append (L R : Bytes) (hL : underscore ∉ L) : afterUnderscore (L ++ underscore :: R) = R := by
  unfold afterUnderscore
  rw [dropWhile_append_of_pos (bne_of_not_mem hL), dropWhile_cons_of_neg (by simp)]
  rfl

/-- splitting at the first `_` -/
theorem split_underscore (s : Bytes) (h : underscore ∈ s) : s = langPart s ++ underscore :: afterUnderscore s := by
  obtain ⟨L, R, rfl, hL⟩ := eq_append_cons_of_mem h
  rw [langPart_append L R hL, afterUnderscore_append L R hL]

/-! ## memcpy / cstr on the 64-byte buffer -/

/-- what `strcmp` sees of a copied part: the part up to its first NUL (the whole part for a C string argument) -/
def keyOf (q : Bytes) : Bytes := q.takeWhile (· != 0)

theorem keyOf_of_not_mem (q : Bytes) (h : 0 ∉ q) : keyOf q = q := takeWhile_ne_of_not_mem 0 q h

theorem keyOf_length_le (q : Bytes) : (keyOf q).length ≤ q.length := by
  unfold keyOf
  exact (List.takeWhile_sublist _).length_le

theorem memcpy_nat (buf src : Bytes) (n : Nat) (h1 : n ≤ buf.length) (h2 : n ≤ src.length) :
    memcpy buf src (n : Int) = .ok (src.take n ++ buf.drop n) := by
  unfold memcpy
  rw [if_neg (Int.not_lt.2 (Int.natCast_nonneg n)), Int.toNat_natCast, if_neg (Nat.not_lt.2 h1), if_neg (Nat.not_lt.2 h2)]

theorem cstr_padded (q : Bytes) (k : Nat) : cstr (q ++ replicate (k + 1) 0) = .ok (keyOf q) := by
  unfold cstr keyOf
  rw [replicate_succ, if_pos (mem_append_right q mem_cons_self), takeWhile_append_stop]

/-- copying fewer than 64 readable bytes into the zeroed buffer succeeds, and `strcmp` then sees those bytes up to their
first NUL -/
theorem memcpy_zeroed (src : Bytes) (n : Nat) (hn : n < bufSize) (hs : n ≤ src.length) :
    ∃ buf, memcpy (replicate bufSize 0) src n = .ok buf ∧ buf.length = bufSize ∧ cstr buf = .ok (keyOf (src.take n)) := by
  refine ⟨src.take n ++ replicate (bufSize - n) 0, ?_, ?_, ?_⟩
  · rw [memcpy_nat _ _ _ (by rw [length_replicate]; exact Nat.le_of_lt hn) hs, drop_replicate]
  · rw [length_append, length_take, length_replicate, Nat.min_eq_left hs, Nat.add_sub_cancel' (Nat.le_of_lt hn)]
  · obtain ⟨k, hk⟩ := Nat.exists_eq_succ_of_ne_zero (Nat.sub_ne_zero_of_lt hn)
    rw [hk, cstr_padded]

theorem memset_full (buf : Bytes) (h : buf.length = bufSize) : memset buf 0 bufSize = replicate bufSize 0 := by
  unfold memset
  rw [h, Nat.min_self, drop_eq_nil_of_le (Nat.le_of_eq h), append_nil]

theorem drop_length_succ_append (L X : Bytes) (c : Nat) : (L ++ c :: X).drop (L.length + 1) = X := by
  rw [← drop_drop, drop_left' rfl]
  rfl

/-- the tail of `get` once both parts have been compared -/
def finish (acc : LangAcc) (c : Option (Bytes × Bytes)) : Except Err Info :=
  if acc.names.isEmpty then .ok fallback else
  match c with
  | none => .ok fallback
  | some e =>
    match acc.code with
    | none => .error .uninitialised
    | some lc => .ok { languages := acc.names, languageCode := lc, country := e.2, countryCode := e.1, error := false }

/-- byte level → list level: with both parts at most 63 bytes long the repaired code compares exactly the two parts -/
theorem copyAndScan_nf (langT ctryT : Table) (L R : Bytes) (n : Nat) (hL : L.length ≤ 63) (hn : n ≤ 63) (hR : n ≤ R.length) :
    copyAndScan true langT ctryT (L ++ underscore :: (R ++ [0])) L.length (L.length + (n + 1))
      = finish (scanLang (keyOf L) langT {}) (scanCountry (keyOf (R.take n)) ctryT) := by
  have e : ((L.length + (n + 1) : Nat) : Int) - (L.length : Int) - 1 = (n : Int) := by omega
  have g : (decide (L.length + (n + 1) > L.length) && decide ((L.length : Int) ≤ 63) && decide ((n : Int) ≤ 63)) = true := by
    simp only [Bool.and_eq_true, decide_eq_true_eq]
    exact ⟨⟨Nat.lt_add_of_pos_right (Nat.succ_pos n), Int.ofNat_le.2 hL⟩, Int.ofNat_le.2 hn⟩
  obtain ⟨b₁, m₁, l₁, c₁⟩ := memcpy_zeroed (L ++ underscore :: (R ++ [0])) L.length (Nat.lt_succ_of_le hL)
    (by rw [length_append]; exact Nat.le_add_right ..)
  obtain ⟨b₂, m₂, -, c₂⟩ := memcpy_zeroed (R ++ [0]) n (Nat.lt_succ_of_le hn)
    (by rw [length_append]; exact Nat.le_add_right_of_le hR)
  rw [take_left' rfl] at c₁
  rw [take_append_of_le_length hR] at c₂
  unfold copyAndScan
  simp only [e, g, Bool.not_true, Bool.and_false, Bool.false_eq_true, ↓reduceIte,
    m₁, Except.bind, c₁, memset_full _ l₁, drop_length_succ_append, m₂, c₂, Bool.true_and]
  rfl


/-- the F9 guards: a `.` before the `_` or a part longer than 63 bytes goes to the fallback before anything is copied -/
theorem copyAndScan_guard (langT ctryT : Table) (mem : Bytes) (delim D : Nat)
    (h : ¬ (delim < D ∧ delim ≤ 63 ∧ D ≤ delim + 64)) : copyAndScan true langT ctryT mem delim D = .ok fallback := by
  have g : (decide (D > delim) && decide ((delim : Int) ≤ 63) && decide ((D : Int) - (delim : Int) - 1 ≤ 63)) = false := by
    rw [← Bool.not_eq_true]
    simp only [Bool.and_eq_true, decide_eq_true_eq]
    omega
  unfold copyAndScan
  simp only [g, Bool.not_false, Bool.and_true, ↓reduceIte]

theorem take_length_takeWhile (p : Nat → Bool) (R : Bytes) : R.take (R.takeWhile p).length = R.takeWhile p := by
  have := take_left' (l₂ := R.dropWhile p) (rfl : (R.takeWhile p).length = _)
  rwa [takeWhile_append_dropWhile] at this

/-- **Normal form of the repaired `get`.**  For every byte list: no error branch of the byte-level model is reachable
except through `finish`, and the keys compared with the tables are the two parts (cut at a NUL, if any). -/
theorem getT_nf (langT ctryT : Table) (s : Bytes) :
    getT langT ctryT s =
      if underscore ∈ s ∧ dot ∉ langPart s ∧ (langPart s).length ≤ 63 ∧ (countryPart s).length ≤ 63 then
        finish (scanLang (keyOf (langPart s)) langT {}) (scanCountry (keyOf (countryPart s)) ctryT)
      else .ok fallback := by
  unfold getT getGen
  rw [idxOf?_eq]
  by_cases hu : underscore ∈ s
  · obtain ⟨L, R, rfl, hL⟩ := eq_append_cons_of_mem hu
    unfold countryPart
    rw [if_pos hu, takeWhile_split _ L R hL, langPart_append L R hL, afterUnderscore_append L R hL, dotOffset_eq,
      append_assoc, cons_append]
    simp only
    by_cases hd : dot ∈ L
    · rw [copyAndScan_guard _ _ _ _ _ fun g => Nat.lt_asymm g.1 (length_takeWhile_append_lt dot L _ hd), if_neg fun h => h.2.1 hd]
    · rw [takeWhile_append_of_pos (bne_of_not_mem hd), takeWhile_cons_of_pos (by decide), length_append, length_cons]
      by_cases h : L.length ≤ 63 ∧ (R.takeWhile (· != dot)).length ≤ 63
      · rw [copyAndScan_nf langT ctryT L R _ h.1 h.2 (takeWhile_sublist _).length_le, take_length_takeWhile, if_pos ⟨hu, hd, h⟩]
      · rw [copyAndScan_guard _ _ _ _ _ fun g => h ⟨g.2.1, by omega⟩, if_neg fun g => h g.2.2]
  · rw [if_neg hu, if_neg fun h => hu h.1]

/-! ## memory safety for every byte list and every pair of tables -/

theorem scanLang_code (key : Bytes) (T : Table) (acc : LangAcc) (h : acc.names ≠ [] → acc.code ≠ none) :
    (scanLang key T acc).names ≠ [] → (scanLang key T acc).code ≠ none := by
  induction T generalizing acc with
  | nil => exact h
  | cons e rest ih =>
    unfold scanLang
    split
    · exact ih _ (fun _ => by simp)
    · split
      · intro _; simp
      · exact ih _ h

theorem finish_ok (acc : LangAcc) (c : Option (Bytes × Bytes)) (h : acc.names ≠ [] → acc.code ≠ none) :
    ∃ i, finish acc c = .ok i := by
  unfold finish
  by_cases he : acc.names.isEmpty = true
  · exact ⟨fallback, by rw [if_pos he]⟩
  · rw [if_neg he]
    cases c with
    | none => exact ⟨fallback, rfl⟩
    | some e =>
      cases hc : acc.code with
      | none => exact absurd hc (h fun hn => he (hn ▸ rfl))
      | some lc => exact ⟨_, rfl⟩

/-- no out-of-bounds read or write, no uninitialised field: for ANY byte list (even one containing NUL bytes) and ANY tables -/
theorem getT_safe (langT ctryT : Table) (s : Bytes) : ∃ i, getT langT ctryT s = .ok i := by
  rw [getT_nf]
  split
  · exact finish_ok _ _ (scanLang_code _ _ _ (fun h => absurd rfl h))
  · exact ⟨fallback, rfl⟩

/-! ## the scans are the table look-ups of the specification -/

theorem mem_namesOf_iff (T : Table) (k n : Bytes) : n ∈ namesOf T k ↔ (k, n) ∈ T := by
  unfold namesOf
  simp only [mem_map, mem_filter, beq_iff_eq]
  constructor
  · rintro ⟨e, ⟨he, rfl⟩, rfl⟩
    exact he
  · exact fun h => ⟨_, ⟨h, rfl⟩, rfl⟩

theorem mem_namesOf (T : Table) (e : Bytes × Bytes) (he : e ∈ T) : e.2 ∈ namesOf T e.1 := (mem_namesOf_iff T e.1 e.2).2 he

theorem namesOf_eq_nil_iff (T : Table) (key : Bytes) : namesOf T key = [] ↔ ∀ e ∈ T, e.1 ≠ key := by
  rw [eq_nil_iff_forall_not_mem]
  constructor
  · intro h e he hk
    exact h e.2 (hk ▸ mem_namesOf T e he)
  · intro h n hn
    exact h _ ((mem_namesOf_iff T key n).1 hn) rfl

theorem namesOf_cons (e : Bytes × Bytes) (T : Table) (key : Bytes) :
    namesOf (e :: T) key = if e.1 = key then e.2 :: namesOf T key else namesOf T key := by
  unfold namesOf
  by_cases h : e.1 = key <;> simp [h]


/-- the key is no NAME in the table: the loop never breaks and collects every name carrying the code -/
theorem scanLang_notName (key : Bytes) (T : Table) (acc : LangAcc) (h : ∀ e ∈ T, e.2 ≠ key) :
    scanLang key T acc = { code := if namesOf T key = [] then acc.code else some key, names := acc.names ++ namesOf T key } := by
  induction T generalizing acc with
  | nil => simp [scanLang, namesOf]
  | cons e rest ih =>
    have hr : ∀ e ∈ rest, e.2 ≠ key := fun x hx => h x (mem_cons_of_mem _ hx)
    have he : e.2 ≠ key := h e mem_cons_self
    unfold scanLang
    rw [namesOf_cons]
    by_cases hc : e.1 = key
    · rw [if_pos hc, if_pos hc, ih _ hr]
      by_cases hn : namesOf rest key = [] <;> simp [hn, hc]
    · rw [if_neg hc, if_neg he, if_neg hc, ih _ hr]

/-- the key is no CODE in the table: the loop stops at the first entry with that name -/
theorem scanLang_notCode (key : Bytes) (T : Table) (acc : LangAcc) (h : ∀ e ∈ T, e.1 ≠ key) :
    scanLang key T acc = match T.find? (fun e => e.2 == key) with
      | some e => { code := some e.1, names := acc.names ++ [key] }
      | none => acc := by
  induction T generalizing acc with
  | nil => simp [scanLang]
  | cons e rest ih =>
    have hr : ∀ e ∈ rest, e.1 ≠ key := fun x hx => h x (mem_cons_of_mem _ hx)
    have he : e.1 ≠ key := h e mem_cons_self
    unfold scanLang
    rw [if_neg he]
    by_cases hn : e.2 = key
    · simp [hn]
    · rw [if_neg hn, ih _ hr]
      simp [hn]

def accOf : Option (Bytes × List Bytes) → LangAcc
  | some l => { code := some l.1, names := l.2 }
  | none => {}

/-- with codes and names disjoint, the language loop computes `lookupLang` -/
theorem scanLang_eq_lookup (T : Table) (hd : ∀ e ∈ T, ∀ e' ∈ T, e.1 ≠ e'.2) (key : Bytes) :
    scanLang key T {} = accOf (lookupLang T key) := by
  unfold lookupLang
  by_cases hn : namesOf T key = []
  · rw [scanLang_notCode key T _ ((namesOf_eq_nil_iff T key).1 hn), if_neg (not_not_intro hn)]
    cases T.find? (fun e => e.2 == key) <;> rfl
  · obtain ⟨n, hm⟩ := exists_mem_of_ne_nil _ hn
    have hname : ∀ e' ∈ T, e'.2 ≠ key := fun e' he' h' => hd _ ((mem_namesOf_iff T key n).1 hm) e' he' h'.symm
    rw [scanLang_notName key T _ hname, if_pos hn, if_neg hn]
    rfl

/-- what a successful language look-up returns -/
theorem lookupLang_sound {T : Table} {k : Bytes} {l : Bytes × List Bytes} (h : lookupLang T k = some l) :
    (∃ e ∈ T, e.1 = k ∨ e.2 = k) ∧ l.2 ≠ [] ∧ ∀ n ∈ l.2, (l.1, n) ∈ T := by
  unfold lookupLang at h
  by_cases hn : namesOf T k = []
  · rw [if_neg (not_not_intro hn)] at h
    cases hf : T.find? (fun e => e.2 == k) with
    | none => rw [hf] at h; cases h
    | some e =>
      rw [hf] at h
      cases h
      have hm := mem_of_find?_eq_some hf
      have hp : e.2 = k := by simpa using find?_some hf
      exact ⟨⟨e, hm, .inr hp⟩, cons_ne_nil _ _, fun n hn => by rw [mem_singleton.1 hn, ← hp]; exact hm⟩
  · rw [if_pos hn] at h
    cases h
    obtain ⟨n, hm⟩ := exists_mem_of_ne_nil _ hn
    exact ⟨⟨_, (mem_namesOf_iff T k n).1 hm, .inl rfl⟩, hn, fun n hn => (mem_namesOf_iff T k n).1 hn⟩

theorem scanCountry_eq_lookup (T : Table) (key : Bytes) : scanCountry key T = lookupCountry T key := by
  unfold lookupCountry
  induction T with
  | nil => rfl
  | cons e rest ih =>
    unfold scanCountry
    by_cases h : e.1 = key ∨ e.2 = key
    · rw [if_pos h, find?_cons_of_pos (by simpa using h)]
    · rw [if_neg h, ih, find?_cons_of_neg (by simpa using h)]

/-- what a successful country look-up returns -/
theorem lookupCountry_sound {T : Table} {k : Bytes} {c : Bytes × Bytes} (h : lookupCountry T k = some c) :
    c ∈ T ∧ (c.1 = k ∨ c.2 = k) := by
  unfold lookupCountry at h
  have hp := find?_some h
  simp only [Bool.or_eq_true, beq_iff_eq] at hp
  exact ⟨mem_of_find?_eq_some h, hp⟩

def found (l : Bytes × List Bytes) (c : Bytes × Bytes) : Info :=
  { languages := l.2, languageCode := l.1, country := c.2, countryCode := c.1, error := false }

theorem finish_accOf (l : Option (Bytes × List Bytes)) (hl : ∀ x, l = some x → x.2 ≠ []) (c : Option (Bytes × Bytes)) :
    finish (accOf l) c = .ok (combine l c) := by
  unfold finish combine
  cases l with
  | none => simp [accOf]
  | some x =>
    have : x.2.isEmpty = false := by
      cases h : x.2 with
      | nil => exact absurd h (hl x rfl)
      | cons _ _ => rfl
    cases c <;> simp [accOf, this]


/-! ## table facts (hypotheses of the generic theorems; discharged over the regenerated tables in Props/C19.lean) -/

structure LangFacts (T : Table) : Prop where
  /-- every key fits the buffer together with its NUL -/
  short : ∀ e ∈ T, e.1.length < bufSize ∧ e.2.length < bufSize
  /-- no code is also a name -/
  disjoint : ∀ e ∈ T, ∀ e' ∈ T, e.1 ≠ e'.2
  noUnderscore : ∀ e ∈ T, underscore ∉ e.1 ∧ underscore ∉ e.2
  noDot : ∀ e ∈ T, dot ∉ e.1 ∧ dot ∉ e.2
  noNul : ∀ e ∈ T, 0 ∉ e.1 ∧ 0 ∉ e.2
  hasFallback : fallbackLang ∈ T

structure CountryFacts (T : Table) : Prop where
  short : ∀ e ∈ T, e.1.length < bufSize ∧ e.2.length < bufSize
  noUnderscore : ∀ e ∈ T, underscore ∉ e.1 ∧ underscore ∉ e.2
  noNul : ∀ e ∈ T, 0 ∉ e.1 ∧ 0 ∉ e.2
  codesUnique : ∀ e ∈ T, ∀ e' ∈ T, e.1 = e'.1 → e = e'
  namesUnique : ∀ e ∈ T, ∀ e' ∈ T, e.2 = e'.2 → e = e'
  disjoint : ∀ e ∈ T, ∀ e' ∈ T, e.1 ≠ e'.2
  hasFallback : fallbackCountry ∈ T

/-! ## `get = spec` -/

/-- a part of 64 bytes or more is no key: the specification needs no length test of its own -/
theorem not_key_of_long {T : Table} (hs : ∀ e ∈ T, e.1.length < bufSize ∧ e.2.length < bufSize) {k : Bytes}
    (h : 63 < k.length) : ¬ ∃ e ∈ T, e.1 = k ∨ e.2 = k := by
  rintro ⟨e, he, rfl | rfl⟩
  · exact Nat.lt_irrefl _ (Nat.lt_of_lt_of_le (hs e he).1 h)
  · exact Nat.lt_irrefl _ (Nat.lt_of_lt_of_le (hs e he).2 h)

theorem langPart_subset (s : Bytes) : ∀ b ∈ langPart s, b ∈ s := fun _ h => (takeWhile_sublist _).subset h
theorem countryPart_subset (s : Bytes) : ∀ b ∈ countryPart s, b ∈ s := fun _ h =>
  (dropWhile_sublist _).subset ((drop_sublist _ _).subset ((takeWhile_sublist _).subset h))

/-- **the repaired code computes the specification**, for every C string (byte list without NUL) and any two tables
whose keys fit the buffer and whose language codes and names are disjoint -/
theorem getT_eq_specT (langT ctryT : Table) (hLs : ∀ e ∈ langT, e.1.length < bufSize ∧ e.2.length < bufSize)
    (hLd : ∀ e ∈ langT, ∀ e' ∈ langT, e.1 ≠ e'.2) (hCs : ∀ e ∈ ctryT, e.1.length < bufSize ∧ e.2.length < bufSize)
    (s : Bytes) (h0 : 0 ∉ s) : getT langT ctryT s = .ok (specT langT ctryT s) := by
  rw [getT_nf]
  unfold specT
  by_cases hu : underscore ∈ s ∧ dot ∉ langPart s
  · rw [if_pos hu]
    by_cases hl : (langPart s).length ≤ 63
    · by_cases hc : (countryPart s).length ≤ 63
      · rw [if_pos ⟨hu.1, hu.2, hl, hc⟩, keyOf_of_not_mem _ fun h => h0 (langPart_subset s _ h),
          keyOf_of_not_mem _ fun h => h0 (countryPart_subset s _ h), scanLang_eq_lookup _ hLd, scanCountry_eq_lookup,
          finish_accOf _ fun _ hx => (lookupLang_sound hx).2.1]
      · have : lookupCountry ctryT (countryPart s) = none := Option.eq_none_iff_forall_ne_some.2 fun c h =>
          not_key_of_long hCs (Nat.lt_of_not_le hc) ⟨c, lookupCountry_sound h⟩
        rw [if_neg fun h => hc h.2.2.2, this]
        cases lookupLang langT (langPart s) <;> rfl
    · have : lookupLang langT (langPart s) = none := Option.eq_none_iff_forall_ne_some.2 fun l h =>
        not_key_of_long hLs (Nat.lt_of_not_le hl) (lookupLang_sound h).1
      rw [if_neg fun h => hl h.2.2.1, this]
      rfl
  · rw [if_neg fun h => hu ⟨h.1, h.2.1⟩, if_neg hu]


/-! ## what the specification says about well-shaped and other strings -/

def isLangKey (T : Table) (k : Bytes) : Prop := ∃ e ∈ T, e.1 = k ∨ e.2 = k
def isCountryKey (T : Table) (k : Bytes) : Prop := ∃ e ∈ T, e.1 = k ∨ e.2 = k

/-- `language_COUNTRY` optionally followed by `.charset`, both keys known, no `.` inside the country key -/
def wellShaped (langT ctryT : Table) (s : Bytes) : Prop :=
  ∃ L C suffix, s = L ++ underscore :: C ++ suffix ∧ isLangKey langT L ∧ isCountryKey ctryT C ∧ dot ∉ C ∧
    (suffix = [] ∨ ∃ cs, suffix = dot :: cs)

theorem countryPart_shape (L C suffix : Bytes) (hLu : underscore ∉ L) (hCd : dot ∉ C) (hs : suffix = [] ∨ ∃ cs, suffix = dot :: cs) :
    countryPart (L ++ underscore :: C ++ suffix) = C := by
  unfold countryPart
  rw [append_assoc, cons_append, afterUnderscore_append L _ hLu]
  rcases hs with rfl | ⟨cs, rfl⟩
  · rw [append_nil, takeWhile_ne_of_not_mem _ _ hCd]
  · rw [takeWhile_append_stop, takeWhile_ne_of_not_mem _ _ hCd]

/-- the decomposition `L_C[.charset]` is the one the specification computes -/
theorem specT_shape (langT ctryT : Table) (L C suffix : Bytes) (hLu : underscore ∉ L) (hLd : dot ∉ L) (hCd : dot ∉ C)
    (hs : suffix = [] ∨ ∃ cs, suffix = dot :: cs) :
    specT langT ctryT (L ++ underscore :: C ++ suffix) = combine (lookupLang langT L) (lookupCountry ctryT C) := by
  unfold specT
  rw [countryPart_shape L C suffix hLu hCd hs, append_assoc, cons_append, langPart_append L _ hLu,
    if_pos ⟨mem_append_right L mem_cons_self, hLd⟩]

theorem lookupCountry_key (T : Table) (h : CountryFacts T) (c : Bytes × Bytes) (hc : c ∈ T) (k : Bytes) (hk : k = c.1 ∨ k = c.2) :
    lookupCountry T k = some c := by
  cases hf : lookupCountry T k with
  | none =>
    rw [lookupCountry, find?_eq_none] at hf
    have := hf c hc
    rcases hk with rfl | rfl <;> simp at this
  | some c' =>
    obtain ⟨hm, hp⟩ := lookupCountry_sound hf
    congr 1
    rcases hp with hp | hp <;> rcases hk with rfl | rfl
    · exact h.codesUnique _ hm _ hc hp
    · exact absurd hp (h.disjoint _ hm _ hc)
    · exact absurd hp.symm (h.disjoint _ hc _ hm)
    · exact h.namesUnique _ hm _ hc hp

theorem lookupLang_code (T : Table) (e : Bytes × Bytes) (he : e ∈ T) : lookupLang T e.1 = some (e.1, namesOf T e.1) := by
  unfold lookupLang
  rw [if_pos (ne_nil_of_mem (mem_namesOf T e he))]

theorem lookupLang_name (T : Table) (hd : ∀ e ∈ T, ∀ e' ∈ T, e.1 ≠ e'.2) (e : Bytes × Bytes) (he : e ∈ T) :
    ∃ e' ∈ T, e'.2 = e.2 ∧ T.find? (fun x => x.2 == e.2) = some e' ∧ lookupLang T e.2 = some (e'.1, [e.2]) := by
  unfold lookupLang
  rw [if_neg (not_not_intro ((namesOf_eq_nil_iff T e.2).2 fun x hx => hd x hx e he))]
  cases hf : T.find? (fun x => x.2 == e.2) with
  | none => exact absurd (beq_self_eq_true e.2) (find?_eq_none.1 hf e he)
  | some e' => exact ⟨e', mem_of_find?_eq_some hf, by simpa using find?_some hf, rfl, rfl⟩

theorem dropWhile_dot_shape (R : Bytes) : R.dropWhile (· != dot) = [] ∨ ∃ cs, R.dropWhile (· != dot) = dot :: cs := by
  induction R with
  | nil => exact .inl rfl
  | cons b bs ih =>
    by_cases hb : b = dot
    · exact .inr ⟨bs, by simp [hb]⟩
    · rw [dropWhile_cons_of_pos (p := (· != dot)) (bne_iff_ne.2 hb)]
      exact ih

/-- the specification answers with the fallback, or with what two successful look-ups found -/
theorem specT_cases (langT ctryT : Table) (s : Bytes) :
    specT langT ctryT s = fallback ∨ ∃ l c, underscore ∈ s ∧ lookupLang langT (langPart s) = some l ∧
      lookupCountry ctryT (countryPart s) = some c ∧ specT langT ctryT s = found l c := by
  unfold specT
  split
  · next hu =>
    cases hl : lookupLang langT (langPart s) with
    | none => exact .inl rfl
    | some l =>
      cases hc : lookupCountry ctryT (countryPart s) with
      | none => exact .inl rfl
      | some c => exact .inr ⟨l, c, hu.1, rfl, rfl, rfl⟩
  · exact .inl rfl

/-- a string that is not `language_COUNTRY[.charset]` with known keys gets the fallback (any tables) -/
theorem specT_other (langT ctryT : Table) (s : Bytes) (h : ¬ wellShaped langT ctryT s) : specT langT ctryT s = fallback := by
  rcases specT_cases langT ctryT s with hf | ⟨l, c, hu, hl, hc, -⟩
  · exact hf
  · refine absurd ⟨langPart s, countryPart s, (afterUnderscore s).dropWhile (· != dot), ?_, (lookupLang_sound hl).1,
      ⟨c, lookupCountry_sound hc⟩, not_mem_takeWhile_ne _ _, dropWhile_dot_shape _⟩ h
    unfold countryPart
    rw [append_assoc, cons_append, takeWhile_append_dropWhile]
    exact split_underscore s hu

/-! ## every returned string is a component of a table entry -/

/-- by content: every name is paired with the returned code in the language table, the country pair is an entry of the
country table (the `error` text is not a table pointer) -/
def inTables (langT ctryT : Table) (i : Info) : Prop :=
  i.languages ≠ [] ∧ (∀ n ∈ i.languages, (i.languageCode, n) ∈ langT) ∧ (i.countryCode, i.country) ∈ ctryT

theorem specT_inTables (langT ctryT : Table) (hfl : fallbackLang ∈ langT) (hfc : fallbackCountry ∈ ctryT) (s : Bytes) :
    inTables langT ctryT (specT langT ctryT s) := by
  rcases specT_cases langT ctryT s with hf | ⟨l, c, -, hl, hc, hf⟩ <;> rw [hf]
  · exact ⟨cons_ne_nil _ _, fun n hn => by rw [mem_singleton.1 hn]; exact hfl, hfc⟩
  · exact ⟨(lookupLang_sound hl).2.1, (lookupLang_sound hl).2.2, (lookupCountry_sound hc).1⟩

/-! ## known language × known country -/

/-- language given by CODE: that code, all table names carrying it (table order), that country -/
theorem specT_known_code (langT ctryT : Table) (hL : LangFacts langT) (hC : CountryFacts ctryT)
    (e : Bytes × Bytes) (he : e ∈ langT) (c : Bytes × Bytes) (hc : c ∈ ctryT) (k : Bytes) (hk : k = c.1 ∨ k = c.2)
    (hkd : dot ∉ k) (suffix : Bytes) (hs : suffix = [] ∨ ∃ cs, suffix = dot :: cs) :
    specT langT ctryT (e.1 ++ underscore :: k ++ suffix) =
      { languages := namesOf langT e.1, languageCode := e.1, country := c.2, countryCode := c.1, error := false } := by
  rw [specT_shape langT ctryT e.1 k suffix (hL.noUnderscore e he).1 (hL.noDot e he).1 hkd hs,
    lookupLang_code langT e he, lookupCountry_key ctryT hC c hc k hk]
  rfl

/-- language given by NAME: the code of the first entry with that name, just that name, that country -/
theorem specT_known_name (langT ctryT : Table) (hL : LangFacts langT) (hC : CountryFacts ctryT)
    (e : Bytes × Bytes) (he : e ∈ langT) (c : Bytes × Bytes) (hc : c ∈ ctryT) (k : Bytes) (hk : k = c.1 ∨ k = c.2)
    (hkd : dot ∉ k) (suffix : Bytes) (hs : suffix = [] ∨ ∃ cs, suffix = dot :: cs) :
    ∃ e' ∈ langT, e'.2 = e.2 ∧ langT.find? (fun x => x.2 == e.2) = some e' ∧
      specT langT ctryT (e.2 ++ underscore :: k ++ suffix) =
        { languages := [e.2], languageCode := e'.1, country := c.2, countryCode := c.1, error := false } := by
  obtain ⟨e', hm, hn, hf, hl⟩ := lookupLang_name langT hL.disjoint e he
  refine ⟨e', hm, hn, hf, ?_⟩
  rw [specT_shape langT ctryT e.2 k suffix (hL.noUnderscore e he).2 (hL.noDot e he).2 hkd hs, hl,
    lookupCountry_key ctryT hC c hc k hk]
  rfl

/-- the two cases together partition all strings: `error` is clear exactly for the well-shaped ones -/
theorem specT_error_iff (langT ctryT : Table) (hL : LangFacts langT) (hC : CountryFacts ctryT) (s : Bytes) :
    (specT langT ctryT s).error = false ↔ wellShaped langT ctryT s := by
  constructor
  · intro h
    apply Classical.byContradiction
    intro hw
    rw [specT_other langT ctryT s hw] at h
    cases h
  · rintro ⟨L, C, suffix, rfl, ⟨e, he, hek⟩, ⟨c, hc, hck⟩, hCd, hs⟩
    have hck' : C = c.1 ∨ C = c.2 := hck.imp Eq.symm Eq.symm
    rcases hek with rfl | rfl
    · rw [specT_known_code langT ctryT hL hC e he c hc C hck' hCd suffix hs]
    · obtain ⟨e', _, _, _, h⟩ := specT_known_name langT ctryT hL hC e he c hc C hck' hCd suffix hs
      rw [h]

end Tulz.Locale
