import Tulz.Model.Thread
/-
  Lemmas for C20: the inductive invariant of the Thread model (every lifetime flag and counter is a function of the two
  program counters, i.e. every reachable state is `canon` of its counters; the counters are compatible), safety of every
  access under a safe capture table, the executable step function, progress and a decreasing measure.
-/
namespace Thread

/-! ### what the program counters determine -/

def frameLive : SPc → Bool
  | .buildClosure | .spawn | .returnFromStart => true
  | _ => false

def closureBuilt : SPc → Bool
  | .evalArgs | .buildClosure => false
  | _ => true

def wEntered : WPc → Bool       -- the callable / run() has been entered
  | .inside | .delete | .setFinished | .exit | .ended => true
  | _ => false

def wReturned : WPc → Bool      -- … has returned
  | .delete | .setFinished | .exit | .ended => true
  | _ => false

def wPastDelete : WPc → Bool
  | .setFinished | .exit | .ended => true
  | _ => false

def wFlagSet : WPc → Bool
  | .exit | .ended => true
  | _ => false

def sNotDone : SPc → Bool
  | .done => false
  | _ => true

def wNotEnded : WPc → Bool
  | .ended => false
  | _ => true

def wIsUnborn : WPc → Bool
  | .unborn => true
  | _ => false

/-- compatible pairs: the new thread exists exactly after `spawn`; the starter is past `join` only when the thread has ended -/
def compat : SPc → WPc → Bool
  | .evalArgs, w | .buildClosure, w | .spawn, w => wIsUnborn w
  | .joined, w | .done, w => !(wNotEnded w)
  | _, w => !(wIsUnborn w)

structure Inv (cfg : Cfg) (s : State) : Prop where
  compat : compat s.spc s.wpc = true
  kindpc : s.wpc = .delete → cfg.kind = .runnable
  frame : s.frameAlive = frameLive s.spc
  closure : s.closureAlive = (closureBuilt s.spc && wNotEnded s.wpc)
  scope : s.scopeAlive = sNotDone s.spc
  heap : s.heapAlive = (cfg.kind.isRunnable && !(wPastDelete s.wpc))
  fin : s.finished = wFlagSet s.wpc
  inv : s.invokes = if wEntered s.wpc then 1 else 0
  ret : s.returned = wReturned s.wpc
  des : s.destroys = if cfg.kind.isRunnable && wPastDelete s.wpc then 1 else 0
  saw : s.sawFinished = true → s.finished = true

theorem inv_init (cfg : Cfg) : Inv cfg (init cfg) := by
  constructor <;> simp [init, compat, frameLive, closureBuilt, wPastDelete, wFlagSet, wEntered, wReturned, sNotDone, wNotEnded, wIsUnborn]

@[simp] theorem touch_spc (s : State) (os) : (s.touch os).spc = s.spc := rfl
@[simp] theorem touch_wpc (s : State) (os) : (s.touch os).wpc = s.wpc := rfl
@[simp] theorem touch_frameAlive (s : State) (os) : (s.touch os).frameAlive = s.frameAlive := rfl
@[simp] theorem touch_closureAlive (s : State) (os) : (s.touch os).closureAlive = s.closureAlive := rfl
@[simp] theorem touch_scopeAlive (s : State) (os) : (s.touch os).scopeAlive = s.scopeAlive := rfl
@[simp] theorem touch_heapAlive (s : State) (os) : (s.touch os).heapAlive = s.heapAlive := rfl
@[simp] theorem touch_finished (s : State) (os) : (s.touch os).finished = s.finished := rfl
@[simp] theorem touch_invokes (s : State) (os) : (s.touch os).invokes = s.invokes := rfl
@[simp] theorem touch_returned (s : State) (os) : (s.touch os).returned = s.returned := rfl
@[simp] theorem touch_destroys (s : State) (os) : (s.touch os).destroys = s.destroys := rfl
@[simp] theorem touch_sawFinished (s : State) (os) : (s.touch os).sawFinished = s.sawFinished := rfl


/-! ### the invariant is inductive -/

variable {cfg : Cfg} {s : State}

/-- the state whose flags and counters are what the program counters `p`, `w` determine; `saw` and `bad` are free -/
def canon (cfg : Cfg) (p : SPc) (w : WPc) (saw bad : Bool) : State :=
  { spc := p, wpc := w, frameAlive := frameLive p, closureAlive := closureBuilt p && wNotEnded w, scopeAlive := sNotDone p,
    heapAlive := cfg.kind.isRunnable && !(wPastDelete w), finished := wFlagSet w, invokes := if wEntered w then 1 else 0,
    returned := wReturned w, destroys := if cfg.kind.isRunnable && wPastDelete w then 1 else 0,
    sawFinished := saw, badTouch := bad }

/-- `Inv` says: the state is canonical, the counters are compatible, `delete` is a step of the Runnable instance only and
    the starter has seen the flag only if it is set -/
theorem inv_iff : Inv cfg s ↔ ∃ p w saw bad, s = canon cfg p w saw bad ∧ compat p w = true ∧
    (w = .delete → cfg.kind = .runnable) ∧ (saw = true → wFlagSet w = true) := by
  constructor
  · intro hi
    refine ⟨s.spc, s.wpc, s.sawFinished, s.badTouch, ?_, hi.compat, hi.kindpc, fun h => hi.fin ▸ hi.saw h⟩
    obtain ⟨_, _, hf, hcl, hsc, hh, hfin, hinv, hret, hdes, _⟩ := hi
    cases s
    rw [canon, State.mk.injEq]
    exact ⟨rfl, rfl, hf, hcl, hsc, hh, hfin, hinv, hret, hdes, rfl, rfl⟩
  · rintro ⟨p, w, saw, bad, rfl, hc, hk, hs⟩
    exact ⟨hc, hk, rfl, rfl, rfl, rfl, rfl, rfl, rfl, rfl, hs⟩

theorem eq_unborn {w : WPc} : wIsUnborn w = true → w = .unborn := by cases w <;> decide

/-- the starter is past `join()` only when the new thread has ended -/
theorem ended_of_joined {p : SPc} {w : WPc} (hc : compat p w = true) (hd : p = .joined ∨ p = .done) : w = .ended := by
  rcases hd with rfl | rfl <;> revert hc <;> cases w <;> decide

/-- a step of the new thread keeps the counters compatible -/
theorem compat_worker {p : SPc} {w w' : WPc} (h : compat p w = true) (hw : wIsUnborn w = false) (he : wNotEnded w = true)
    (hw' : wIsUnborn w' = false) : compat p w' = true := by
  cases p <;> simp_all [compat]

/-- every step maps the canonical state of its counters to the canonical state of the new counters: with the counter that
    moves a constructor, the flags on both sides are closed terms and the equation holds by `rfl` -/
theorem inv_step {t : State} {l : Lbl} (hi : Inv cfg s) (h : Step cfg s l t) : Inv cfg t := by
  obtain ⟨p, w, saw, bad, rfl, hc, hk, hs⟩ := inv_iff.1 hi
  refine inv_iff.2 ?_
  obtain ⟨k, c, a, th⟩ := cfg
  cases h with
  | evalArgs h => obtain rfl : p = .evalArgs := h; exact ⟨_, _, _, _, rfl, hc, hk, hs⟩
  | buildClosure h =>
    obtain rfl : p = .buildClosure := h
    obtain rfl := eq_unborn hc
    exact ⟨_, _, _, _, rfl, hc, hk, hs⟩
  | spawn h =>
    obtain rfl : p = .spawn := h
    obtain rfl := eq_unborn hc
    exact ⟨_, _, _, _, rfl, rfl, nofun, hs⟩
  | returnFromStart h => obtain rfl : p = .returnFromStart := h; exact ⟨_, _, _, _, rfl, hc, hk, hs⟩
  | clobberFrame h => obtain rfl : p = .clobberFrame := h; exact ⟨_, _, _, _, rfl, hc, hk, hs⟩
  | poll h =>
    obtain rfl : p = .working := h
    exact ⟨_, _, _, _, rfl, hc, hk, fun h => (Bool.or_eq_true_iff.1 h).elim hs id⟩
  | join h hw => obtain rfl : p = .working := h; obtain rfl : w = .ended := hw; exact ⟨_, _, _, _, rfl, rfl, hk, hs⟩
  | scopeExit h => obtain rfl : p = .joined := h; exact ⟨_, _, _, _, rfl, hc, hk, hs⟩
  | begin h => obtain rfl : w = .begin := h; exact ⟨_, _, _, _, rfl, compat_worker hc rfl rfl rfl, nofun, hs⟩
  | readCallable h => obtain rfl : w = .readCallable := h; exact ⟨_, _, _, _, rfl, compat_worker hc rfl rfl rfl, nofun, hs⟩
  | invokeBegin h => obtain rfl : w = .invokeBegin := h; exact ⟨_, _, _, _, rfl, compat_worker hc rfl rfl rfl, nofun, hs⟩
  | useSelf h => obtain rfl : w = .inside := h; exact ⟨_, _, _, _, rfl, hc, hk, hs⟩
  | useArgs h => obtain rfl : w = .inside := h; exact ⟨_, _, _, _, rfl, hc, hk, hs⟩
  | invokeEnd h =>
    obtain rfl : w = .inside := h
    cases k
    · exact ⟨_, _, _, _, rfl, compat_worker hc rfl rfl rfl, nofun, hs⟩
    · exact ⟨_, _, _, _, rfl, compat_worker hc rfl rfl rfl, fun _ => rfl, hs⟩
  | delete h =>
    obtain rfl : w = .delete := h
    obtain rfl : k = .runnable := hk rfl
    exact ⟨_, _, _, _, rfl, compat_worker hc rfl rfl rfl, nofun, hs⟩
  | setFinished h => obtain rfl : w = .setFinished := h; exact ⟨_, _, _, _, rfl, compat_worker hc rfl rfl rfl, nofun, fun _ => rfl⟩
  | exit h =>
    obtain rfl : w = .exit := h
    -- `closureBuilt p && false` reduces only once `p` is a constructor
    cases p <;> first | exact ⟨_, _, _, _, rfl, rfl, nofun, hs⟩ | cases hc

theorem reach_inv {cfg : Cfg} {s : State} (h : Reach cfg s) : Inv cfg s := by
  induction h with
  | init => exact inv_init cfg
  | step _ hs ih => exact inv_step ih hs

/-! ### tactics that check one step of the invariant field by field

    `thr_starter s hi h` / `thr_worker cfg s hi h` close `Inv cfg (doX s)` from `hi : Inv cfg s` and `h : s.spc = _` / `h : s.wpc = _`
    by splitting the other program counter and simplifying each of the eleven fields.  `inv_step` does not need them (one `rfl`
    per step on the canonical state is far cheaper to check); they serve for trying out a changed step function. -/

macro "thr_defs" : tactic => `(tactic|
  simp_all [doEvalArgs, doBuildClosure, doSpawn, doReturnFromStart, doClobberFrame, doPoll, doJoin, doScopeExit,
    doBegin, doReadCallable, doInvokeBegin, doUseSelf, doUseArgs, doInvokeEnd, doDelete, doSetFinished, doExit,
    compat, frameLive, closureBuilt, wPastDelete, wFlagSet, wEntered, wReturned, afterInvoke, sNotDone, wNotEnded, wIsUnborn,
    Kind.isRunnable, State.touch])

/-- starter step: `s.spc` is known, split the new thread's counter -/
macro "thr_starter" s:ident hi:ident hpc:ident : tactic => `(tactic|
  (obtain ⟨hc, hk, hf, hcl, hsc, hh, hfin, hinv, hret, hdes, hsaw⟩ := $hi
   rcases $s:ident with ⟨spc, wpc, fa, ca, sa, ha, fin, inv, ret, des, saw, bad⟩
   simp only at $hpc:ident hc hk hf hcl hsc hh hfin hinv hret hdes hsaw
   subst $hpc
   cases wpc <;> simp [compat, wIsUnborn, wNotEnded] at hc <;> (constructor <;> thr_defs)))

/-- new-thread step: `s.wpc` is known, split the starter's counter and the kind -/
macro "thr_worker" cfg:ident s:ident hi:ident hpc:ident : tactic => `(tactic|
  (obtain ⟨hc, hk, hf, hcl, hsc, hh, hfin, hinv, hret, hdes, hsaw⟩ := $hi
   rcases $s:ident with ⟨spc, wpc, fa, ca, sa, ha, fin, inv, ret, des, saw, bad⟩
   simp only at $hpc:ident hc hk hf hcl hsc hh hfin hinv hret hdes hsaw
   subst $hpc
   cases hkk : ($cfg:ident).kind <;> cases spc <;> simp [compat, wIsUnborn, wNotEnded] at hc <;> (constructor <;> thr_defs)))

/-! ### under a safe capture table no step touches a dead object -/

theorem touch_badTouch (s : State) (os : List Obj) (h : ∀ o ∈ os, s.alive o = true) : (s.touch os).badTouch = s.badTouch := by
  have : os.any (isDead s) = false := by
    rw [List.any_eq_false]
    intro o ho
    simp [isDead, h o ho]
  simp [State.touch, this]

/-- while the new thread exists and has not ended, its closure is alive -/
theorem closure_alive (hi : Inv cfg s) (h1 : wIsUnborn s.wpc = false) (h2 : wNotEnded s.wpc = true) : s.closureAlive = true := by
  have hc := hi.compat
  rw [hi.closure, h2]
  cases hs : s.spc <;> simp_all [compat, closureBuilt]

/-- until the new thread has ended the starter cannot be past `join`, so the caller's scope is alive -/
theorem scope_alive (hi : Inv cfg s) (h2 : wNotEnded s.wpc = true) : s.scopeAlive = true := by
  have hc := hi.compat
  rw [hi.scope]
  cases hs : s.spc <;> simp_all [compat, sNotDone]

theorem args_alive (hargs : ∀ a ∈ cfg.args, a = .byRef .callerLvalue ∨ a = .byCopy) (hsc : s.scopeAlive = true)
    (hcl : s.closureAlive = true) : ∀ o ∈ cfg.args.map Cap.obj, s.alive o = true := by
  intro o ho
  rw [List.mem_map] at ho
  obtain ⟨a, ha, rfl⟩ := ho
  rcases hargs a ha with rfl | rfl
  · exact hsc
  · exact hcl

theorem step_safe {t : State} {l : Lbl} (hsafe : cfg.Safe) (hi : Inv cfg s) (h : Step cfg s l t) : t.badTouch = s.badTouch := by
  obtain ⟨p, w, saw, bad, rfl, hc, hk, -⟩ := inv_iff.1 hi
  obtain ⟨k, c, a, th⟩ := cfg
  obtain ⟨rfl, hargs, rfl⟩ : c = .byCopy ∧ (∀ x ∈ a, x = .byRef .callerLvalue ∨ x = .byCopy) ∧ th = .byCopy := hsafe
  -- with the counter of the moving thread a constructor, the lifetime flags of the canonical state are closed terms
  cases h with
  | evalArgs _ | spawn _ | returnFromStart _ | clobberFrame _ | scopeExit _ | begin _ | invokeEnd _ | exit _ => rfl
  | buildClosure h =>
    obtain rfl : p = .buildClosure := h
    refine touch_badTouch _ (copySources _) fun o ho => ?_
    have : o = .frameSlot ∨ o = .callerLvalue := by
      rcases List.mem_append.1 ho with ho | ho
      · exact .inl (List.mem_singleton.1 ho)
      · split at ho
        · exact .inr (List.mem_singleton.1 ho)
        · cases ho
    rcases this with rfl | rfl <;> rfl
  | poll h | join h _ =>
    obtain rfl : p = .working := h
    exact touch_badTouch _ [.thisObj] fun o ho => List.mem_singleton.1 ho ▸ rfl
  | readCallable h =>
    obtain rfl : w = .readCallable := h
    exact touch_badTouch _ [.closureField, .closureField] fun o ho => by
      have : o = .closureField := by simpa using ho
      exact this ▸ closure_alive hi rfl rfl
  | invokeBegin h =>
    obtain rfl : w = .invokeBegin := h
    cases k
    · exact touch_badTouch _ [] nofun
    · exact touch_badTouch _ [.heapObj] fun o ho => List.mem_singleton.1 ho ▸ rfl
  | useSelf h =>
    obtain rfl : w = .inside := h
    cases k
    · exact touch_badTouch _ [.closureField] fun o ho => List.mem_singleton.1 ho ▸ closure_alive hi rfl rfl
    · exact touch_badTouch _ [.heapObj] fun o ho => List.mem_singleton.1 ho ▸ rfl
  | useArgs h =>
    obtain rfl : w = .inside := h
    exact touch_badTouch _ _ (args_alive hargs (scope_alive hi rfl) (closure_alive hi rfl rfl))
  | delete h =>
    obtain rfl : w = .delete := h
    obtain rfl : k = .runnable := hk rfl
    exact touch_badTouch _ [.closureField, .closureField, .heapObj] fun o ho => by
      have : o = .closureField ∨ o = .heapObj := by simpa using ho
      rcases this with rfl | rfl
      · exact closure_alive hi rfl rfl
      · rfl
  | setFinished h =>
    obtain rfl : w = .setFinished := h
    exact touch_badTouch _ [.closureField, .thisObj] fun o ho => by
      have : o = .closureField ∨ o = .thisObj := by simpa using ho
      rcases this with rfl | rfl
      · exact closure_alive hi rfl rfl
      · exact scope_alive hi rfl

theorem reach_safe (hsafe : cfg.Safe) (h : Reach cfg s) : s.badTouch = false := by
  induction h with
  | init => rfl
  | step hr hs ih => rw [step_safe hsafe (reach_inv hr) hs]; exact ih


/-! ### the executable step function is the relation -/

theorem step?_sound {t : State} {l : Lbl} (h : step? cfg s l = some t) : Step cfg s l t := by
  cases l <;> simp only [step?, Option.ite_none_right_eq_some, Option.some.injEq] at h <;> obtain ⟨hp, rfl⟩ := h
  case join => exact .join s hp.1 hp.2
  all_goals exact by constructor; exact hp

theorem step?_complete {t : State} {l : Lbl} (h : Step cfg s l t) : step? cfg s l = some t := by
  cases h <;> simp [step?, *]

theorem run?_reach {t : State} (ls : List Lbl) (hr : Reach cfg s) (h : run? cfg s ls = some t) : Reach cfg t := by
  induction ls generalizing s with
  | nil => simp [run?] at h; subst h; exact hr
  | cons l ls ih =>
    simp only [run?] at h
    split at h
    · rename_i u hu; exact ih (Reach.step hr (step?_sound hu)) h
    · cases h

/-! ### runs as label lists; counting -/

theorem run_reach {t : State} {ls : List Lbl} (hr : Reach cfg s) (h : Run cfg s ls t) : Reach cfg t := by
  induction h with
  | nil => exact hr
  | cons hs _ ih => exact ih (Reach.step hr hs)

theorem step_invokes {t : State} {l : Lbl} (h : Step cfg s l t) : t.invokes = s.invokes + (if l = .invokeBegin then 1 else 0) := by
  cases h <;> rfl

theorem step_destroys {t : State} {l : Lbl} (h : Step cfg s l t) : t.destroys = s.destroys + (if l = .delete then 1 else 0) := by
  cases h <;> rfl

theorem run_invokes {t : State} {ls : List Lbl} (h : Run cfg s ls t) : t.invokes = s.invokes + ls.count .invokeBegin := by
  induction h with
  | nil => simp
  | @cons s l t ls u hs _ ih =>
    rw [ih, step_invokes hs, List.count_cons]
    by_cases hl : l = Lbl.invokeBegin <;> simp [hl] <;> omega

theorem run_destroys {t : State} {ls : List Lbl} (h : Run cfg s ls t) : t.destroys = s.destroys + ls.count .delete := by
  induction h with
  | nil => simp
  | @cons s l t ls u hs _ ih =>
    rw [ih, step_destroys hs, List.count_cons]
    by_cases hl : l = Lbl.delete <;> simp [hl] <;> omega

/-! ### progress: a run that is not complete can always take a step that is not a poll / use loop, and such steps
    strictly decrease a measure (so every run with finitely many polls and uses completes) -/

def SPc.rank : SPc → Nat
  | .evalArgs => 0 | .buildClosure => 1 | .spawn => 2 | .returnFromStart => 3 | .clobberFrame => 4 | .working => 5 | .joined => 6 | .done => 7

def WPc.rank : WPc → Nat
  | .unborn => 0 | .begin => 1 | .readCallable => 2 | .invokeBegin => 3 | .inside => 4 | .delete => 5 | .setFinished => 6 | .exit => 7 | .ended => 8

def measure (s : State) : Nat := (7 - s.spc.rank) + (8 - s.wpc.rank)

def Lbl.isLoop : Lbl → Bool
  | .poll | .useSelf | .useArgs => true
  | _ => false

theorem progress (hi : Inv cfg s) (hnd : s.spc ≠ .done) : ∃ l t, Step cfg s l t ∧ l.isLoop = false := by
  have hc := hi.compat
  cases hs : s.spc
  · exact ⟨_, _, Step.evalArgs s hs, rfl⟩
  · exact ⟨_, _, Step.buildClosure s hs, rfl⟩
  · exact ⟨_, _, Step.spawn s hs, rfl⟩
  · exact ⟨_, _, Step.returnFromStart s hs, rfl⟩
  · exact ⟨_, _, Step.clobberFrame s hs, rfl⟩
  · cases hw : s.wpc
    · simp [hs, hw, compat, wIsUnborn] at hc
    · exact ⟨_, _, Step.begin s hw, rfl⟩
    · exact ⟨_, _, Step.readCallable s hw, rfl⟩
    · exact ⟨_, _, Step.invokeBegin s hw, rfl⟩
    · exact ⟨_, _, Step.invokeEnd s hw, rfl⟩
    · exact ⟨_, _, Step.delete s hw, rfl⟩
    · exact ⟨_, _, Step.setFinished s hw, rfl⟩
    · exact ⟨_, _, Step.exit s hw, rfl⟩
    · exact ⟨_, _, Step.join s hs hw, rfl⟩
  · exact ⟨_, _, Step.scopeExit s hs, rfl⟩
  · exact absurd hs hnd

theorem measure_decreases {t : State} {l : Lbl} (hi : Inv cfg s) (h : Step cfg s l t) (hl : l.isLoop = false) :
    measure t < measure s := by
  cases h with
  | poll _ | useSelf _ | useArgs _ => cases hl
  | invokeEnd hpc =>
    cases hk : cfg.kind <;> simp only [measure, doInvokeEnd, hk, afterInvoke, hpc, SPc.rank, WPc.rank] <;> omega
  | spawn hpc =>
    have hw : s.wpc = .unborn := eq_unborn (hpc ▸ hi.compat :)
    simp only [measure, doSpawn, hpc, hw, SPc.rank, WPc.rank]; omega
  | join hpc hs =>
    simp only [measure, doJoin, touch_wpc, hs, hpc, SPc.rank, WPc.rank]; omega
  | evalArgs hpc | buildClosure hpc | returnFromStart hpc | clobberFrame hpc | scopeExit hpc | begin hpc | readCallable hpc
  | invokeBegin hpc | delete hpc | setFinished hpc | exit hpc =>
    simp only [measure, doEvalArgs, doBuildClosure, doReturnFromStart, doClobberFrame, doScopeExit, doBegin,
      doReadCallable, doInvokeBegin, doDelete, doSetFinished, doExit, touch_spc, touch_wpc, hpc, SPc.rank, WPc.rank]
    omega

theorem loop_measure {t : State} {l : Lbl} (h : Step cfg s l t) (hl : l.isLoop = true) : measure t = measure s := by
  cases h <;> simp [Lbl.isLoop] at hl <;> rfl

end Thread
