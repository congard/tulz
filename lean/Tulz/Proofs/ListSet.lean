/-
  Facts about `List.set` that are not in core: what rewriting one cell does to a look-up, to the list as a multiset,
  to a `filterMap` and to a sum over `zipWith`.  The thread tables of `Rwp`, `TPool` and `TPoolX` are lists of program
  counters of which every step rewrites one cell.
-/
namespace List

theorem getElem?_set_cases {α} {l : List α} {i j : Nat} {x p : α} (h : (l.set i x)[j]? = some p) :
    (j = i ∧ p = x) ∨ (j ≠ i ∧ l[j]? = some p) := by
  by_cases e : i = j
  · rw [getElem?_set, if_pos e] at h
    split at h <;> cases h
    exact Or.inl ⟨e.symm, rfl⟩
  · rw [getElem?_set_ne e] at h; exact Or.inr ⟨Ne.symm e, h⟩

theorem getElem?_set_self_of_some {α} {l : List α} {i : Nat} {a : α} (x : α) (h : l[i]? = some a) :
    (l.set i x)[i]? = some x :=
  getElem?_set_self (getElem?_eq_some_iff.1 h).1

theorem set_self_of_some {α} {l : List α} {i : Nat} {a : α} (h : l[i]? = some a) : l.set i a = l := by
  obtain ⟨hi, rfl⟩ := getElem?_eq_some_iff.1 h
  exact set_getElem_self hi

/-- cell `w` splits the list, and rewriting it rewrites the middle -/
theorem set_split {α} {l : List α} {w : Nat} {a : α} (h : l[w]? = some a) :
    ∃ l₁ l₂, l = l₁ ++ a :: l₂ ∧ l₁.length = w ∧ ∀ x, l.set w x = l₁ ++ x :: l₂ := by
  obtain ⟨hw, rfl⟩ := getElem?_eq_some_iff.1 h
  refine ⟨l.take w, l.drop (w + 1), ?_, length_take_of_le (Nat.le_of_lt hw), fun x => ?_⟩
  · rw [← drop_eq_getElem_cons hw, take_append_drop]
  · rw [set_eq_take_append_cons_drop, if_pos hw]

/-- as multisets, `l` is its cell `w` and a rest, and `l.set w x` is `x` and the same rest -/
theorem set_perm {α} {l : List α} {w : Nat} {a : α} (h : l[w]? = some a) (x : α) :
    ∃ r, l.Perm (a :: r) ∧ (l.set w x).Perm (x :: r) := by
  obtain ⟨l₁, l₂, e, _, hs⟩ := set_split h
  exact ⟨l₁ ++ l₂, e ▸ perm_middle, hs x ▸ perm_middle⟩

theorem filterMap_cons_toList {α β} (f : α → Option β) (a : α) (l : List α) :
    (a :: l).filterMap f = (f a).toList ++ l.filterMap f := by
  rw [filterMap_cons]; cases f a <;> rfl

/-- rewriting cell `w` from `a` to `x` exchanges `f a` for `f x` in `filterMap f` -/
theorem filterMap_set_perm {α β} (f : α → Option β) {l : List α} {w : Nat} {a : α} (x : α) (h : l[w]? = some a) :
    ((f a).toList ++ (l.set w x).filterMap f).Perm ((f x).toList ++ l.filterMap f) := by
  obtain ⟨l₁, l₂, rfl, _, hs⟩ := set_split h
  rw [hs, filterMap_append, filterMap_append, filterMap_cons_toList, filterMap_cons_toList]
  exact (perm_append_comm_assoc _ _ _).trans ((perm_append_comm_assoc _ _ _).append_left _ |>.trans
    (perm_append_comm_assoc _ _ _))

theorem filterMap_set_eq {α β} (f : α → Option β) {l : List α} {w : Nat} {a x : α} (h : l[w]? = some a)
    (hx : f x = f a) : (l.set w x).filterMap f = l.filterMap f := by
  obtain ⟨l₁, l₂, rfl, _, hs⟩ := set_split h
  rw [hs, filterMap_append, filterMap_append, filterMap_cons_toList, filterMap_cons_toList, hx]

theorem count_filterMap_set {α β} [BEq β] (f : α → Option β) {l : List α} {w : Nat} {a : α} (x : α)
    (h : l[w]? = some a) (t : β) :
    ((l.set w x).filterMap f).count t + (f a).toList.count t = (l.filterMap f).count t + (f x).toList.count t := by
  have := (filterMap_set_perm f x h).count_eq t
  rw [count_append, count_append] at this
  rw [Nat.add_comm, this, Nat.add_comm]

/-- rewriting cell `i` of both lists exchanges one summand of the sum over `zipWith` -/
theorem sum_zipWith_set {α β} (f : α → β → Nat) {l : List α} {r : List β} {i : Nat} {a : α} {b : β} (a' : α) (b' : β)
    (ha : l[i]? = some a) (hb : r[i]? = some b) :
    (zipWith f (l.set i a') (r.set i b')).sum + f a b = (zipWith f l r).sum + f a' b' := by
  induction l generalizing r i with
  | nil => cases ha
  | cons c l ih =>
    cases r with
    | nil => cases hb
    | cons d r =>
      cases i with
      | zero => cases ha; cases hb; simp only [set_cons_zero, zipWith_cons_cons, sum_cons]; omega
      | succ i =>
        have := ih ha hb
        simp only [set_cons_succ, zipWith_cons_cons, sum_cons]; omega

end List
