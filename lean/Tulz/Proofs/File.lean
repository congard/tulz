import Tulz.Model.FileSpec
/- Lemmas for C17.  Stdio: what `write` does to a disk, `fopen` by access kind.  File: the counting loop through `isEOF`;
   reading through the invariant `RInv` (open for reading on `p`, standing at `pos`), under which every call does what the
   byte-list specification says; sequential writing through the invariant `FInv` (the stream writes at the end of `p`, which
   holds `c`); `open` as the step that establishes one or the other. -/
namespace Tulz.Stdio

/-! ### the disk -/

theorem lookup_store_same (p : String) (b : Bytes) (l : List (String × Bytes)) :
    lookup p (store p b l) = some b := by
  induction l with
  | nil => simp [store, lookup]
  | cons e r ih =>
    obtain ⟨q, c⟩ := e
    unfold store
    by_cases h : q = p
    · simp [h, lookup]
    · simp [h, lookup, ih]

theorem lookup_store_other (p q : String) (hne : q ≠ p) (b : Bytes) (l : List (String × Bytes)) :
    lookup q (store p b l) = lookup q l := by
  induction l with
  | nil => simp [store, lookup, Ne.symm hne]
  | cons e r ih =>
    obtain ⟨x, c⟩ := e
    unfold store
    by_cases h : x = p
    · subst h; simp [lookup, Ne.symm hne]
    · simp only [h, if_false, lookup, ih]

@[simp] theorem content_write_same (d : Disk) (p : String) (b : Bytes) : (d.write p b).content p = b := by
  simp [Disk.content, Disk.read, Disk.write, lookup_store_same]

theorem content_write_other (d : Disk) (p q : String) (hne : q ≠ p) (b : Bytes) :
    (d.write p b).content q = d.content q := by
  simp [Disk.content, Disk.read, Disk.write, lookup_store_other p q hne]

@[simp] theorem isFile_write_same (d : Disk) (p : String) (b : Bytes) : (d.write p b).isFile p = true := by
  simp [Disk.isFile, Disk.read, Disk.write, lookup_store_same]

@[simp] theorem isDir_write (d : Disk) (p q : String) (b : Bytes) : (d.write p b).isDir q = d.isDir q := rfl

theorem content_of_read {d : Disk} {p : String} {b : Bytes} (h : d.read p = some b) : d.content p = b := by
  simp [Disk.content, h]

theorem content_of_not_isFile {d : Disk} {p : String} (h : d.isFile p = false) : d.content p = [] := by
  unfold Disk.isFile at h
  unfold Disk.content
  cases hr : d.read p with
  | none => rfl
  | some b => rw [hr] at h; cases h

/-- writing at the end of a "w" stream's file appends -/
theorem overwrite_end (content data : Bytes) : overwrite content content.length data = content ++ data := by
  simp [overwrite]

/-- the disk after `fopen(path, "a")`: the file exists, nothing else changes -/
def touched (d : Disk) (p : String) : Disk := if d.isFile p then d else d.write p []

theorem touched_spec (d : Disk) (p : String) :
    (touched d p).content p = d.content p ∧ (touched d p).isFile p = true ∧ (touched d p).isDir p = d.isDir p := by
  unfold touched
  cases hf : d.isFile p with
  | true => exact ⟨rfl, hf, rfl⟩
  | false => exact ⟨(content_write_same ..).trans (content_of_not_isFile hf).symm, isFile_write_same .., rfl⟩

/-- `fopen` on a path that is not a directory -/
theorem fopen_not_dir {d : Disk} {p : String} (hdir : d.isDir p = false) (s : String) :
    fopen d p s = match parseMode s with
      | none => (d, none)
      | some (.r, bin) => (d, if d.isFile p then some (mkStream p .r bin false 0) else none)
      | some (.w, bin) => (d.write p [], some (mkStream p .w bin false 0))
      | some (.a, bin) => (touched d p, some (mkStream p .a bin false ((touched d p).content p).length)) := by
  unfold fopen
  rw [hdir]
  rcases parseMode s with _ | ⟨_ | _ | _, bin⟩
  · rfl
  · exact (apply_ite _ _ _ _).symm
  · rfl
  · rfl

end Tulz.Stdio

namespace Tulz.FileM
open Tulz.Stdio

/-- the stream is open for reading on a regular file -/
def Readable (st : Stream) : Prop := st.acc = .r ∧ st.dir = false

theorem readable_iff (st : Stream) : readable st = true ↔ Readable st := by
  simp [readable, Readable]

/-! ### the counting loop of `read()` -/

theorem isEOF_inside {d : Disk} {st : Stream} (hr : Readable st) (h : st.pos < (d.content st.path).length) :
    isEOF d st = ({ st with pos := st.pos + 1 }, st.eof) := by
  unfold isEOF fgetc
  rw [(readable_iff st).mpr hr, List.getElem?_eq_getElem h]
  rfl

theorem isEOF_atEnd {d : Disk} {st : Stream} (hr : Readable st) (h : (d.content st.path).length ≤ st.pos) :
    isEOF d st = ({ st with eof := true }, true) := by
  unfold isEOF fgetc
  rw [(readable_iff st).mpr hr, List.getElem?_eq_none_iff.mpr h]
  rfl

/-- on a stream that is not readable `fgetc` fails without raising the end-of-file indicator -/
theorem isEOF_unreadable {d : Disk} {st : Stream} (hr : readable st = false) :
    isEOF d st = ({ st with err := true }, st.eof) := by
  unfold isEOF fgetc
  rw [hr]
  rfl

/-- the counting loop on a readable stream whose end-of-file indicator is clear: `k` bytes left → returns
    `acc + k` after `k + 1` rounds, positioned at the end with the end-of-file indicator set -/
theorem countLoop_readable (d : Disk) (k : Nat) :
    ∀ (st : Stream) (acc extra : Nat), Readable st → st.eof = false → st.pos + k = (d.content st.path).length →
      countLoop d (k + 1 + extra) st acc = some ({ st with pos := st.pos + k, eof := true }, acc + k) := by
  induction k with
  | zero =>
    intro st acc extra hr _ hpos
    rw [Nat.zero_add, Nat.add_comm, countLoop, isEOF_atEnd hr (Nat.le_of_eq hpos.symm)]
    rfl
  | succ k ih =>
    intro st acc extra hr he hpos
    have hlt : st.pos < (d.content st.path).length := hpos ▸ Nat.lt_add_of_pos_right (Nat.succ_pos k)
    rw [Nat.add_right_comm k 1 1, Nat.add_right_comm (k + 1) 1 extra, countLoop, isEOF_inside hr hlt]
    dsimp only
    rw [if_neg (Bool.eq_false_iff.mp he),
      ih { st with pos := st.pos + 1 } (acc + 1) extra hr he ((Nat.add_right_comm st.pos 1 k).trans hpos)]
    dsimp only
    rw [Nat.add_assoc st.pos, Nat.add_assoc acc, Nat.add_comm 1 k]

/-- … and on a stream that is not readable the loop is still running after any number of rounds -/
theorem countLoop_unreadable (d : Disk) (fuel : Nat) :
    ∀ (st : Stream) (acc : Nat), readable st = false → st.eof = false → countLoop d fuel st acc = none := by
  induction fuel with
  | zero => intro st acc _ _; rfl
  | succ f ih =>
    intro st acc hr he
    rw [countLoop, isEOF_unreadable hr]
    dsimp only
    rw [if_neg (Bool.eq_false_iff.mp he)]
    exact ih _ _ hr he


/-! ### `fseek`, `size`, `fread`, `read` -/

theorem fseek_set_nat (d : Disk) (st : Stream) (n : Nat) :
    fseek d st (n : Int) .set = ({ st with pos := n, eof := false }, 0) := by
  unfold fseek
  dsimp only
  rw [if_neg (by omega), Int.zero_add, Int.toNat_natCast]

theorem fseek_set_zero (d : Disk) (st : Stream) :
    fseek d st 0 .set = ({ st with pos := 0, eof := false }, 0) := fseek_set_nat d st 0

theorem fseek_end_zero (d : Disk) (st : Stream) :
    fseek d st 0 .end = ({ st with pos := (d.content st.path).length, eof := false }, 0) := by
  unfold fseek
  dsimp only
  rw [if_neg (by omega), Int.add_zero, Int.toNat_natCast]

/-- `size()` on any open stream: the length of the file, position kept (the end-of-file indicator is cleared) -/
theorem size_open (d : Disk) (f : File) (st : Stream) (h : f.m_file = some st) :
    size d f = .ok ({ f with m_file := some { st with eof := false } }, (d.content st.path).length) := by
  unfold size
  rw [h]
  simp only [ftell, fseek_end_zero, fseek_set_nat]

/-- `fread` on a readable stream hands over the next `size * count` bytes, or what is left of the file -/
theorem fread_readable (d : Disk) (st : Stream) (hr : Readable st) (size count : Nat) :
    let got := ((d.content st.path).drop st.pos).take (size * count)
    ∃ e, fread d st size count = ({ st with pos := st.pos + got.length, eof := e }, got, got.length / size) := by
  unfold fread
  by_cases h0 : size * count = 0
  · rw [if_pos h0, h0, List.take_zero]
    exact ⟨st.eof, by rw [List.length_nil, Nat.zero_div]; rfl⟩
  · rw [if_neg h0, if_neg (by rw [(readable_iff st).mpr hr]; decide)]
    exact ⟨_, rfl⟩


/-! ### histories on a readable stream -/

/-- the File is open for reading on the regular file `p` and stands at `pos` -/
def RInv (f : File) (p : String) (pos : Nat) : Prop :=
  ∃ st, f.m_file = some st ∧ st.path = p ∧ Readable st ∧ st.pos = pos

theorem readBuf_spec (d : Disk) (f : File) (p : String) (pos : Nat) (h : RInv f p pos) (size count : Nat) :
    let got := ((d.content p).drop pos).take (size * count)
    ∃ f', readBuf d f size count = .ok (f', got, got.length / size) ∧ RInv f' p (pos + got.length) := by
  obtain ⟨st, hst, rfl, hr, rfl⟩ := h
  obtain ⟨e, he⟩ := fread_readable d st hr size count
  unfold readBuf
  rw [hst]
  dsimp only
  rw [he]
  exact ⟨_, rfl, _, rfl, rfl, hr, rfl⟩

/-- `read()` on a File open for reading on a regular file, in every mode value and from every position: all bytes of
    the file, every cell of the array written, position left at the end -/
theorem read_spec (d : Disk) (f : File) (p : String) (pos : Nat) (h : RInv f p pos) :
    ∃ f', read d f = .ok (f', (d.content p).map some) ∧ RInv f' p (d.content p).length := by
  obtain ⟨st, hst, rfl, hr, rfl⟩ := h
  have hr0 : Readable { st with pos := 0, eof := false } := hr
  -- both ways of finding the size return the length of the file, and the stream is rewound afterwards
  have hcount := countLoop_readable d (d.content st.path).length { st with pos := 0, eof := false } 0 0 hr0 rfl
    (Nat.zero_add _)
  have hsize := size_open d { f with m_file := some { st with pos := 0, eof := false } } _ rfl
  obtain ⟨e, he⟩ := fread_readable d { st with pos := 0, eof := false } hr0 1 (d.content st.path).length
  simp only [Nat.add_zero, Nat.zero_add] at hcount
  simp only [List.drop_zero, Nat.one_mul, List.take_length, Nat.zero_add, Nat.div_one] at he
  unfold read
  rw [hst]
  simp only [fseek_set_zero, hcount, hsize, ite_self, he, Nat.sub_self, List.replicate_zero, List.append_nil]
  exact ⟨_, rfl, _, rfl, rfl, hr, rfl⟩


/-- the position a `seek` is relative to -/
def seekBase (len pos : Nat) : Origin → Int
  | .start => 0
  | .current => pos
  | .end => len

theorem fseek_whenceOf (d : Disk) (st : Stream) (off : Int) (o : Origin) :
    fseek d st off (whenceOf o) =
      if seekBase (d.content st.path).length st.pos o + off < 0 then (st, -1)
      else ({ st with pos := (seekBase (d.content st.path).length st.pos o + off).toNat, eof := false }, 0) := by
  cases o <;> rfl

theorem specStep_seek (content : Bytes) (pos : Nat) (off : Int) (o : Origin) :
    specStep content pos (.seek off o) =
      if seekBase content.length pos o + off < 0 then (pos, .int (-1))
      else ((seekBase content.length pos o + off).toNat, .int 0) := by
  cases o <;> rfl

theorem specStep_readBuf (content : Bytes) (pos size count : Nat) :
    specStep content pos (.readBuf size count) =
      (let got := (content.drop pos).take (size * count)
       (pos + got.length, .buf (got.length / size) got)) := by
  by_cases h0 : size * count = 0
  · rw [specStep, if_pos h0, h0, List.take_zero]
    dsimp only
    rw [List.length_nil, Nat.zero_div]
    rfl
  · rw [specStep, if_neg h0]

/-- one call on a File open for reading does what the byte-list specification says -/
theorem fileStep_spec (d : Disk) (f : File) (p : String) (pos : Nat) (op : ROp) (h : RInv f p pos) :
    ∃ f', fileStep d f op = .ok (f', (specStep (d.content p) pos op).2) ∧
      RInv f' p (specStep (d.content p) pos op).1 := by
  cases op with
  | seek off o =>
    obtain ⟨st, hst, rfl, hr, rfl⟩ := h
    rw [fileStep, seek, hst, specStep_seek]
    dsimp only
    rw [fseek_whenceOf]
    split
    · exact ⟨_, rfl, _, rfl, rfl, hr, rfl⟩
    · exact ⟨_, rfl, _, rfl, rfl, hr, rfl⟩
  | tell =>
    obtain ⟨st, hst, rfl, hr, rfl⟩ := h
    rw [fileStep, tell, hst]
    exact ⟨_, rfl, _, hst, rfl, hr, rfl⟩
  | size =>
    obtain ⟨st, hst, rfl, hr, rfl⟩ := h
    rw [fileStep, size_open d f st hst]
    exact ⟨_, rfl, _, rfl, rfl, hr, rfl⟩
  | readBuf s c =>
    obtain ⟨f', hf', hinv⟩ := readBuf_spec d f p pos h s c
    rw [fileStep, hf', specStep_readBuf]
    exact ⟨_, rfl, hinv⟩
  | read =>
    obtain ⟨f', hf', hinv⟩ := read_spec d f p pos h
    rw [fileStep, hf']
    exact ⟨_, rfl, hinv⟩
  | readStr =>
    obtain ⟨f', hf', hinv⟩ := read_spec d f p pos h
    rw [fileStep, readStr, hf']
    exact ⟨_, rfl, hinv⟩

theorem runFile_spec (d : Disk) (p : String) (ops : List ROp) :
    ∀ (f : File) (pos : Nat), RInv f p pos →
      ∃ f', runFile d f ops = .ok (f', (runSpec (d.content p) pos ops).2) ∧
        RInv f' p (runSpec (d.content p) pos ops).1 := by
  induction ops with
  | nil => intro f pos h; exact ⟨f, rfl, h⟩
  | cons op r ih =>
    intro f pos h
    obtain ⟨f1, hs, hinv⟩ := fileStep_spec d f p pos op h
    obtain ⟨f2, hr, hinv2⟩ := ih f1 _ hinv
    refine ⟨f2, ?_, ?_⟩
    · simp only [runFile, hs, hr, runSpec]
    · simpa [runSpec] using hinv2


/-! ### writing -/

/-- the stream writes at the end of its file: an append stream always, a "w" stream when positioned there -/
def AtEnd (d : Disk) (st : Stream) : Prop :=
  st.acc = .a ∨ (st.acc = .w ∧ st.pos = (d.content st.path).length)

/-- invariant of a stream that is being written sequentially: it belongs to `p`, writes at the end, and the
    file holds `c` -/
def WInv (d : Disk) (st : Stream) (p : String) (c : Bytes) : Prop :=
  st.path = p ∧ AtEnd d st ∧ d.content p = c ∧ d.isFile p = true ∧ d.isDir p = false

theorem fwrite_inv (d : Disk) (st : Stream) (p : String) (c data : Bytes) (size count : Nat)
    (h : WInv d st p c) :
    ∃ d' st' n, fwrite d st data size count = (d', st', n) ∧ WInv d' st' p (c ++ data.take (size * count)) := by
  obtain ⟨rfl, hacc, rfl, hf, hdir⟩ := h
  unfold fwrite
  dsimp only
  split
  next h0 =>
    rw [h0, List.take_zero, List.append_nil]
    exact ⟨_, _, _, rfl, rfl, hacc, rfl, hf, hdir⟩
  next =>
    rcases hacc with ha | ⟨hw, hpos⟩
    · rw [ha]
      exact ⟨_, _, _, rfl, rfl, .inl rfl, content_write_same .., isFile_write_same .., hdir⟩
    · rw [hw, hpos, overwrite_end]
      refine ⟨_, _, _, rfl, rfl, .inr ⟨rfl, ?_⟩, content_write_same .., isFile_write_same .., hdir⟩
      show (d.content st.path).length + _ = ((d.write st.path _).content st.path).length
      rw [content_write_same, List.length_append]

/-- invariant of a File that is being written sequentially -/
def FInv (d : Disk) (f : File) (p : String) (c : Bytes) : Prop :=
  ∃ st, f.m_file = some st ∧ WInv d st p c

theorem write_inv (d : Disk) (f : File) (p : String) (c data : Bytes) (size esz : Nat)
    (h : FInv d f p c) (hlen : esz * size ≤ data.length) :
    ∃ d' f' n, write d f data size esz = .ok (d', f', n) ∧ FInv d' f' p (c ++ data.take (esz * size)) := by
  obtain ⟨st, hst, hw⟩ := h
  obtain ⟨d', st', n, hfw, hinv⟩ := fwrite_inv d st p c data esz size hw
  unfold write
  rw [hst]
  dsimp only
  rw [if_neg (Nat.not_lt.mpr hlen), hfw]
  exact ⟨_, _, _, rfl, st', rfl, hinv⟩

/-- whole-buffer writes (`write(const Array<byte>&)`, `write(const std::string&)`) -/
theorem write_all_inv (d : Disk) (f : File) (p : String) (c data : Bytes) (h : FInv d f p c) :
    ∃ d' f' n, write d f data data.length 1 = .ok (d', f', n) ∧ FInv d' f' p (c ++ data) := by
  have := write_inv d f p c data data.length 1 h (Nat.le_of_eq (Nat.one_mul _))
  rwa [Nat.one_mul, List.take_length] at this

theorem wcall_inv (d : Disk) (f : File) (p : String) (c : Bytes) (call : WCall) (h : FInv d f p c) :
    ∃ d' f' n, call.run d f = .ok (d', f', n) ∧ FInv d' f' p (c ++ call.bytes) := by
  cases call with
  | raw data esz => exact write_inv d f p c data (data.length / esz) esz h (Nat.mul_div_le _ _)
  | array data => exact write_all_inv d f p c data h
  | string data => exact write_all_inv d f p c data h

theorem writeAll_inv (calls : List WCall) :
    ∀ (d : Disk) (f : File) (p : String) (c : Bytes), FInv d f p c →
      ∃ d' f', writeAll d f calls = .ok (d', f') ∧ FInv d' f' p (c ++ (calls.map WCall.bytes).flatten) := by
  induction calls with
  | nil => intro d f p c h; exact ⟨d, f, rfl, by rwa [List.map_nil, List.flatten_nil, List.append_nil]⟩
  | cons call r ih =>
    intro d f p c h
    obtain ⟨d1, f1, n, hrun, hinv⟩ := wcall_inv d f p c call h
    obtain ⟨d2, f2, hall, hinv2⟩ := ih d1 f1 p _ hinv
    refine ⟨d2, f2, ?_, ?_⟩
    · rw [writeAll, hrun]; exact hall
    · rwa [List.map_cons, List.flatten_cons, ← List.append_assoc]


/-! ### opening -/

theorem pathExists_eq (d : Disk) (p : String) : pathExists d p = (d.isDir p || d.isFile p) := by
  unfold pathExists fopen
  rw [show parseMode "r" = some (.r, false) from rfl]
  cases d.isDir p <;> cases d.isFile p <;> rfl

/-- once its two guards are passed (the path is no directory; it holds a file or the mode creates one) `open` drops the
    stream the object held and takes what `fopen` returns -/
theorem open_eq_fopen (d : Disk) (f : File) (p : String) (m : Mode) (s : String) (hm : getModeStr m = .ok s)
    (hdir : d.isDir p = false) (hex : d.isFile p = true ∨ isWriteMode m = true) :
    «open» d f p m = ((fopen d p s).1, { m_file := (fopen d p s).2, m_mode := m }, .ok ()) := by
  unfold «open»
  rw [pathExists_eq, pathIsDirectory, hdir, if_neg, if_neg, hm]
  · rw [Bool.and_false]; decide
  · rcases hex with h | h <;> rw [h] <;> simp

theorem open_write (d : Disk) (f : File) (p : String) (m : Mode) (hm : m = .write ∨ m = .writeText)
    (hdir : d.isDir p = false) : ∃ d' f', «open» d f p m = (d', f', .ok ()) ∧ FInv d' f' p [] := by
  rcases hm with rfl | rfl <;>
  · refine ⟨_, _, open_eq_fopen d f p _ _ rfl hdir (.inr rfl), ?_⟩
    rw [fopen_not_dir hdir]
    exact ⟨_, rfl, rfl, .inr ⟨rfl, (congrArg List.length (content_write_same d p [])).symm⟩,
      content_write_same .., isFile_write_same .., hdir⟩

theorem open_append (d : Disk) (f : File) (p : String) (m : Mode) (hm : m = .append ∨ m = .appendText)
    (hdir : d.isDir p = false) : ∃ d' f', «open» d f p m = (d', f', .ok ()) ∧ FInv d' f' p (d.content p) := by
  obtain ⟨hc, hf, hd⟩ := touched_spec d p
  rcases hm with rfl | rfl <;>
  · refine ⟨_, _, open_eq_fopen d f p _ _ rfl hdir (.inr rfl), ?_⟩
    rw [fopen_not_dir hdir]
    exact ⟨_, rfl, rfl, .inl rfl, hc, hf, hd.trans hdir⟩

theorem open_read (d : Disk) (f : File) (p : String) (m : Mode) (hm : m = .read ∨ m = .readText)
    (hf : d.isFile p = true) (hdir : d.isDir p = false) :
    ∃ d' f', «open» d f p m = (d', f', .ok ()) ∧ d' = d ∧ RInv f' p 0 := by
  rcases hm with rfl | rfl <;>
  · refine ⟨_, _, open_eq_fopen d f p _ _ rfl hdir (.inl hf), ?_⟩
    rw [fopen_not_dir hdir, hf]
    exact ⟨rfl, _, rfl, rfl, ⟨rfl, rfl⟩, rfl⟩

end Tulz.FileM
