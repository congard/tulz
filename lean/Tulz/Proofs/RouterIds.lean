import Tulz.Proofs.RouterOrder
/- observer ids stay pairwise different through every history whose subscriptions use fresh ids
   (premise of `C06_notify_ids_once`).  Core Lean only. -/
namespace Tulz.Router

variable {ρ : Type}

/-- the ids of all observers stored in the router -/
def allIds (t : Node) : List Nat := (rFlat t).flatMap (fun e => match e.2 with | none => [] | some s => s.map (·.id))

def subjIds : Option Subj → List Nat
  | none => []
  | some s => s.map (·.id)

/-- the ids of all observers stored at or below a node, in map order -/
def Node.ids (n : Node) : List Nat := n.flat.flatMap (fun e => subjIds e.2)

theorem allIds_eq (t : Node) : allIds t = t.ids := by
  unfold allIds Node.ids rFlat
  rw [List.flatMap_map]
  refine flatMap_congr' (fun e _ => ?_)
  cases e.2 <;> simp [subjIds]

theorem ids_eq (n : Node) : n.ids = subjIds n.subj ++ n.children.flatMap Node.ids := by
  cases n with
  | mk name s cs =>
    simp only [Node.ids, Node.flat, flatList_eq, List.flatMap_cons, List.flatMap_map, List.flatMap_assoc, subj_mk,
      children_mk]
    rfl

theorem ids_withChildren (n : Node) (cs : List Node) : (n.withChildren cs).ids = subjIds n.subj ++ cs.flatMap Node.ids := by
  rw [ids_eq, subj_withChildren, children_withChildren]

theorem ids_withSubj (n : Node) (s : Option Subj) : (n.withSubj s).ids = subjIds s ++ n.children.flatMap Node.ids := by
  rw [ids_eq, subj_withSubj, children_withSubj]

theorem sublist_flatMap_filter {α β : Type} (l : List α) (P : α → Bool) (g1 g2 : α → List β)
    (h : ∀ x, (g1 x).Sublist (g2 x)) : ((l.filter P).flatMap g1).Sublist (l.flatMap g2) := by
  induction l with
  | nil => exact List.Sublist.refl _
  | cons x l ih =>
    simp only [List.filter_cons, List.flatMap_cons]
    split
    · simp only [List.flatMap_cons]
      exact List.Sublist.append (h x) ih
    · exact List.Sublist.trans ih (List.sublist_append_right _ _)

theorem sublist_flatMap_map {α β : Type} (l : List α) (f : α → α) (g : α → List β)
    (h : ∀ c ∈ l, (g (f c)).Sublist (g c)) : ((l.map f).flatMap g).Sublist (l.flatMap g) := by
  induction l with
  | nil => exact List.Sublist.refl _
  | cons x l ih =>
    rw [List.map_cons, List.flatMap_cons, List.flatMap_cons]
    exact List.Sublist.append (h x List.mem_cons_self) (ih (fun c hc => h c (List.mem_cons_of_mem _ hc)))

/-- the ids in a delivery log are ids stored in the router, in the same order -/
theorem log_ids_sublist {α : Type} (t : Node) (P : List String × Option Subj → Bool) (a : α) :
    ((((rFlat t).filter P).flatMap (fun e => subjLog e.2 a)).map (·.1)).Sublist (allIds t) := by
  rw [List.map_flatMap]
  refine sublist_flatMap_filter _ _ _ _ (fun e => ?_)
  cases e.2 with
  | none => exact List.Sublist.refl _
  | some s =>
    simp only [subjLog, Subj.log, List.map_map, Function.comp_def]
    exact List.Sublist.map _ (List.filter_sublist)

/-! ### every operation except subscribe only removes ids -/

theorem ids_map_sublist (n : Node) {f : Node → Node} (hf : ∀ c ∈ n.children, (f c).ids.Sublist c.ids) :
    (n.withChildren (n.children.map f)).ids.Sublist n.ids := by
  rw [ids_withChildren, ids_eq n]
  exact (List.Sublist.refl _).append (sublist_flatMap_map _ _ _ hf)

theorem ids_notify_sublist {α : Type} (rm : ρ → String → Bool) (a : α) (p : List (Level ρ)) (cur : Level ρ) (n : Node)
    (hwf : WF n) : (notify rm a p cur n).node.ids.Sublist n.ids := by
  induction p generalizing cur n with
  | nil =>
    simp only [notify]
    split
    · split
      · rename_i s hs
        rw [ids_withSubj, ids_eq n, hs]
        exact (List.Sublist.map _ List.filter_sublist).append (List.Sublist.refl _)
      · exact List.Sublist.refl _
    · exact List.Sublist.refl _
  | cons nxt rest ih =>
    rw [notify_cons rm a nxt rest cur n hwf.children_pairwise]
    split
    · exact ids_map_sublist n (fun c hc => ih nxt c (hwf.child hc))
    · exact List.Sublist.refl _

theorem ids_prune_sublist (n : Node) {f : Node → Node} (hf : ∀ c ∈ n.children, (f c).ids.Sublist c.ids) :
    (prune f n).ids.Sublist n.ids := by
  rw [prune, ids_withChildren, ids_eq n]
  exact (List.Sublist.refl _).append
    ((sublist_flatMap_filter _ _ _ _ (fun _ => List.Sublist.refl _)).trans (sublist_flatMap_map _ _ _ hf))

theorem ids_shrink_sublist (rm : ρ → String → Bool) (p : List (Level ρ)) (cur : Level ρ) (n : Node) (hwf : WF n) :
    (shrink rm p cur n).ids.Sublist n.ids :=
  shrink_induct rm (P := fun _ n m => m.ids.Sublist n.ids) (fun _ => List.Sublist.refl _)
    (fun _ _ _ ih => ids_prune_sublist _ ih) p cur n hwf

theorem ids_modifySubjAt_sublist (f : Subj → Subj) (hf : ∀ s : Subj, (subjIds (some (f s))).Sublist (subjIds (some s)))
    (key : List String) (n : Node) (hwf : WF n) : (modifySubjAt f key n).ids.Sublist n.ids := by
  induction key generalizing n with
  | nil =>
    simp only [modifySubjAt]
    split
    · rename_i s hs
      rw [ids_withSubj, ids_eq n, hs]
      exact (hf s).append (List.Sublist.refl _)
    · exact List.Sublist.refl _
  | cons k ks ih =>
    simp only [modifySubjAt]
    rw [updFirst_eq_map k _ hwf.children_pairwise]
    refine ids_map_sublist n (fun c hc => ?_)
    split
    · exact ih c (hwf.child hc)
    · exact List.Sublist.refl _

theorem unsubscribe_ids (id : Nat) (s : Subj) : (subjIds (some (s.unsubscribe id))).Sublist (subjIds (some s)) :=
  List.Sublist.map _ List.filter_sublist

theorem invalidate_ids (id : Nat) (s : Subj) : (subjIds (some (s.invalidate id))).Sublist (subjIds (some s)) := by
  have : subjIds (some (s.invalidate id)) = subjIds (some s) := by
    simp only [subjIds, Subj.invalidate, List.map_map]
    refine List.map_congr_left (fun o _ => ?_)
    simp only [Function.comp]
    split <;> rfl
  rw [this]
  exact List.Sublist.refl _

/-! ### subscribe adds exactly the new id -/

theorem flatMap_ids_insertChild (name : String) (l : List Node) :
    ((insertChild name l).flatMap Node.ids).Perm (l.flatMap Node.ids) := by
  refine ((insertChild_perm name l).flatMap_right _).trans ?_
  split
  · exact .refl _
  · rw [List.flatMap_cons, ids_eq]
    exact .refl _

theorem exists_named_insertChild (name : String) (l : List Node) : ∃ c ∈ insertChild name l, c.name = name := by
  cases hf : findChild name l with
  | some c =>
    have := (insertChild_perm name l).mem_iff.mpr (by rw [hf]; exact (findChild_some hf).1)
    exact ⟨c, this, (findChild_some hf).2⟩
  | none =>
    have := (insertChild_perm name l).mem_iff.mpr (by rw [hf]; exact List.mem_cons_self)
    exact ⟨_, this, rfl⟩

theorem perm_flatMap_updFirst (id : Nat) (s : String) (f : Node → Node) (l : List Node)
    (hex : ∃ c ∈ l, c.name = s) (hf : ∀ c, (f c).ids.Perm (id :: c.ids)) :
    ((updFirst s f l).flatMap Node.ids).Perm (id :: l.flatMap Node.ids) := by
  induction l with
  | nil => obtain ⟨c, hc, _⟩ := hex; cases hc
  | cons x l ih =>
    simp only [updFirst]
    split
    · rw [List.flatMap_cons, List.flatMap_cons]
      exact (hf x).append_right _
    · rename_i hne
      rw [List.flatMap_cons, List.flatMap_cons]
      have hex' : ∃ c ∈ l, c.name = s := by
        obtain ⟨c, hc, hcs⟩ := hex
        cases List.mem_cons.mp hc with
        | inl e => subst e; simp [hcs] at hne
        | inr m => exact ⟨c, m, hcs⟩
      exact ((ih hex').append_left x.ids).trans List.perm_middle

theorem ids_subscribeHere (id : Nat) (n : Node) : (subscribeHere id n).ids.Perm (id :: n.ids) := by
  simp only [subscribeHere]
  split
  · rename_i hs
    rw [ids_withSubj, ids_eq n, hs]
    simp [subjIds, Subj.subscribe]
  · rename_i s hs
    rw [ids_withSubj, ids_eq n, hs]
    simp only [subjIds, Subj.subscribe, List.map_append, List.map_cons, List.map_nil, List.append_assoc, List.cons_append,
      List.nil_append]
    exact List.perm_middle

theorem ids_subscribe (id : Nat) (key : List String) (n : Node) : (subscribe id key n).ids.Perm (id :: n.ids) := by
  unfold subscribe
  induction key generalizing n with
  | nil => exact ids_subscribeHere id n
  | cons k ks ih =>
    simp only [lookupModify]
    rw [ids_withChildren, ids_eq n]
    have h1 := (perm_flatMap_updFirst id k (lookupModify (subscribeHere id) ks) (insertChild k n.children)
      (exists_named_insertChild k n.children) ih).trans ((flatMap_ids_insertChild k n.children).cons id)
    exact (h1.append_left (subjIds n.subj)).trans List.perm_middle

/-! ### histories with fresh subscription ids -/

/-- every subscribe uses an id that was not used before (`used` = ids handed out so far) -/
def FreshIds : List Nat → List (Op ρ) → Prop
  | _, [] => True
  | used, .subscribe _ id :: ops => id ∉ used ∧ FreshIds (id :: used) ops
  | used, .unsubscribe _ _ :: ops => FreshIds used ops
  | used, .invalidate _ _ :: ops => FreshIds used ops
  | used, .shrink _ :: ops => FreshIds used ops
  | used, .notify _ :: ops => FreshIds used ops

theorem run_ids (rm : ρ → String → Bool) (ops : List (Op ρ)) (t t' : Node) (used : List Nat) (hs : Sorted t)
    (hnd : t.ids.Nodup) (hsub : ∀ x ∈ t.ids, x ∈ used) (hfresh : FreshIds used ops)
    (hr : run rm t ops = some t') : t'.ids.Nodup := by
  induction ops generalizing t used with
  | nil => simp only [run, Option.some.injEq] at hr; exact hr ▸ hnd
  | cons op ops ih =>
    simp only [run] at hr
    split at hr
    · rename_i t1 hop
      have hs1 := sorted_applyOp rm t t1 op hs hop
      -- a step that only removes ids keeps both facts
      have removes : t1.ids.Sublist t.ids → FreshIds used ops → t'.ids.Nodup :=
        fun hsl hf => ih t1 used hs1 (hsl.nodup hnd) (fun x hx => hsub x (hsl.subset hx)) hf hr
      obtain rfl := applyOp_ok hop
      cases op with
      | subscribe key id =>
        obtain ⟨hid, hf⟩ := hfresh
        have hp := ids_subscribe id key t
        refine ih _ (id :: used) hs1 ?_ ?_ hf hr
        · exact hp.nodup_iff.mpr (List.nodup_cons.mpr ⟨fun hmem => hid (hsub id hmem), hnd⟩)
        · intro x hx
          rcases List.mem_cons.mp (hp.mem_iff.mp hx) with rfl | m
          · exact List.mem_cons_self
          · exact List.mem_cons_of_mem _ (hsub x m)
      | unsubscribe key id => exact removes (ids_modifySubjAt_sublist _ (unsubscribe_ids id) key t hs.wf) hfresh
      | invalidate key id => exact removes (ids_modifySubjAt_sublist _ (invalidate_ids id) key t hs.wf) hfresh
      | shrink p => exact removes (ids_shrink_sublist rm p _ t hs.wf) hfresh
      | notify p => exact removes (ids_notify_sublist rm () p _ t hs.wf) hfresh
    · -- the operation threw `invalid_argument` (so it is no subscribe): the state is unchanged
      rename_i hop
      cases op with
      | subscribe key id => cases hop
      | unsubscribe key id | invalidate key id | shrink p | notify p => exact ih t used hs hnd hsub hfresh hr
    · cases hr

/-- on a fresh router, after any history whose subscribe operations use ids not used before, all stored observer ids
are pairwise different -/
theorem history_ids_nodup (rm : ρ → String → Bool) (ops : List (Op ρ)) (t : Node) (hfresh : FreshIds [] ops)
    (hr : run rm emptyRouter ops = some t) : (allIds t).Nodup := by
  have h0 : (emptyRouter : Node).ids = [] := by rw [ids_eq]; rfl
  rw [allIds_eq]
  refine run_ids rm ops emptyRouter t [] sorted_emptyRouter ?_ ?_ hfresh hr
  · rw [h0]; exact List.nodup_nil
  · rw [h0]; intro x hx; cases hx

end Tulz.Router
