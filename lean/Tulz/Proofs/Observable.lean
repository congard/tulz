import Tulz.Model.Observable
import Tulz.Proofs.SubjectRound
/- Lemmas about the Observable model: what `notifyVal` logs, and the recorder invariant of C16. -/
namespace Tulz.Observable
open Tulz.Subject
variable {T : Type}

/-- the subscribers that are called by a notification: subscribed, valid, unmuted — in subscription order -/
def subscribers (w : World T) : List Nat := (w.order.filter (fun o => o.valid && !o.muted)).map (·.id)

theorem notifyVal_spec (lib : Nat → List Action) (o : Obsv T) (hw : WF o.w) (hd : o.w.depth = 0) (hp : Plain o.w) :
    (o.notifyVal lib).val = o.val ∧
    calls (evsSince o.w (o.notifyVal lib).w) = (subscribers o.w).map (fun i => (i, o.val)) := by
  refine ⟨rfl, ?_⟩
  show calls (evsSince o.w (notify lib 0 o.w o.val)) = _
  rw [(notify_plain lib 0 hw hd hp o.val).1]
  unfold subscribers
  rw [List.map_map]
  rfl

/-! ### recorders -/

/-- after a notification with value `v` to the ids `L`: exactly the cells of `L` hold `v`, the others are untouched -/
theorem storeAll_map (v : T) (L : List Nat) : ∀ cells : Cells T,
    storeAll cells (L.map (fun i => (i, v))) = cells.map (fun p => if p.1 ∈ L then (p.1, v) else p) := by
  induction L with
  | nil => intro cells; simp [storeAll]
  | cons i L ih =>
    intro cells
    show storeAll (cells.map (fun p => if p.1 = i then (p.1, v) else p)) (L.map (fun i => (i, v))) = _
    rw [ih, List.map_map]
    apply List.map_congr_left
    intro p _
    by_cases h1 : p.1 = i
    · simp [h1]
    · by_cases h2 : p.1 ∈ L <;> simp [h1, h2]

/-- every subscriber is valid, unmuted and a plain recorder -/
def PlainLive (w : World T) : Prop := ∀ o ∈ w.obs, o.valid = true ∧ o.muted = false ∧ o.script = []

theorem PlainLive.plain {w : World T} (h : PlainLive w) : Plain w := fun o ho => (h o ho).2.2

theorem subscribers_all {w : World T} (hw : WF w) (h : PlainLive w) (i : Nat) : i ∈ subscribers w ↔ i ∈ w.active := by
  unfold subscribers World.order
  rw [hw.act, mem_ids]
  simp only [List.mem_map, List.mem_filter, List.mem_reverse]
  constructor
  · rintro ⟨o, ⟨ho, _⟩, hi⟩; exact ⟨o, ho, hi⟩
  · rintro ⟨o, ho, hi⟩
    obtain ⟨hv, hm, _⟩ := h o ho
    exact ⟨o, ⟨ho, by rw [hv, hm]; rfl⟩, hi⟩

/-- the invariant behind C16_recorder -/
structure RInv (s : Obsv T × Cells T) : Prop where
  wf : WF s.1.w
  depth : s.1.w.depth = 0
  pl : PlainLive s.1.w
  cover : ∀ i ∈ s.1.w.active, ∃ p ∈ s.2, p.1 = i
  old : ∀ p ∈ s.2, p.1 < s.1.w.counter
  holds : ∀ p ∈ s.2, p.1 ∈ s.1.w.active → p.2 = s.1.val

theorem RInv.init (v0 : T) (sid : Nat) : RInv ((⟨v0, { sid := sid }⟩, []) : Obsv T × Cells T) :=
  ⟨WF.init sid, rfl, List.forall_mem_nil _, List.forall_mem_nil _, List.forall_mem_nil _, List.forall_mem_nil _⟩

/-- a top-level step of the subject that subscribes nobody: who is subscribed afterwards was before -/
theorem active_sub {w w' : World T} (hw : WF w) (h' : AtTop w w') (hsub : ∀ o ∈ w'.obs, o ∈ w.obs) :
    ∀ i ∈ w'.active, i ∈ w.active := by
  intro i hi
  obtain ⟨o, ho, rfl⟩ := mem_ids.1 ((h'.wf.act i).1 hi)
  exact (hw.act _).2 (mem_ids.2 ⟨o, hsub o ho, rfl⟩)

/-- … so the invariant survives it, provided the cells of those still subscribed hold the (new) value -/
theorem RInv.of_shrink {o o' : Obsv T} {cells' : Cells T} (hw : WF o.w) (hpl : PlainLive o.w)
    (h' : AtTop o.w o'.w) (hsub : ∀ x ∈ o'.w.obs, x ∈ o.w.obs)
    (hc : ∀ i ∈ o.w.active, ∃ p ∈ cells', p.1 = i) (hold : ∀ p ∈ cells', p.1 < o.w.counter)
    (hh : ∀ p ∈ cells', p.1 ∈ o'.w.active → p.2 = o'.val) : RInv (o', cells') :=
  ⟨h'.wf, h'.depth, fun x hx => hpl x (hsub x hx), fun i hi => hc i (active_sub hw h' hsub i hi),
   fun p hp => Nat.lt_of_lt_of_le (hold p hp) h'.top.counter, hh⟩

/-- a notification with the (new) value `v` re-establishes the invariant -/
theorem RInv.notified {o : Obsv T} {cells : Cells T} (hw : WF o.w) (hd : o.w.depth = 0) (hpl : PlainLive o.w)
    (hc : ∀ i ∈ o.w.active, ∃ p ∈ cells, p.1 = i) (ho : ∀ p ∈ cells, p.1 < o.w.counter) :
    RInv (o.notifyVal (fun _ => []), storeAll cells (calls (evsSince o.w (o.notifyVal (fun _ => [])).w))) := by
  have hsub := (notify_plain (fun _ => []) 0 hw hd hpl.plain o.val).2
  have h' := notify_atTop (fun _ => []) 0 hw hd o.val
  rw [(notifyVal_spec (fun _ => []) o hw hd hpl.plain).2, storeAll_map]
  have hfst : ∀ q : Nat × T, (if q.1 ∈ subscribers o.w then (q.1, o.val) else q).1 = q.1 := fun q => by split <;> rfl
  refine .of_shrink (o' := o.notifyVal (fun _ => [])) hw hpl h' hsub ?_ ?_ ?_
  · intro i hi
    obtain ⟨p, hp, hpi⟩ := hc i hi
    exact ⟨_, List.mem_map.2 ⟨p, hp, rfl⟩, (hfst p).trans hpi⟩
  · intro p hp
    obtain ⟨q, hq, rfl⟩ := List.mem_map.1 hp
    exact (hfst q).symm ▸ ho q hq
  · intro p hp hpa
    obtain ⟨q, hq, rfl⟩ := List.mem_map.1 hp
    -- still subscribed, so subscribed before, so notified: everybody is valid and unmuted
    rw [if_pos ((subscribers_all hw hpl _).2 (active_sub hw h' hsub _ (hfst q ▸ hpa)))]
    rfl

theorem rstep_inv [BEq T] [LawfulBEq T] {s : Obsv T × Cells T} (h : RInv s) (op : OOp T) :
    RInv (rstep (· == ·) s op) := by
  obtain ⟨o, cells⟩ := s
  obtain ⟨hw, hd, hpl, hc, hold, hh⟩ := h
  -- `=`, `apply`, `++`, `--`: either subject and value stay as they are, or a value is stored and notified
  have upd : ∀ o' : Obsv T, (o'.w = o.w ∧ o'.val = o.val) ∨ (∃ v, o' = Obsv.notifyVal (fun _ => []) { o with val := v }) →
      RInv (o', storeAll cells (calls (evsSince o.w o'.w))) := by
    rintro o' (⟨ew, ev⟩ | ⟨v, rfl⟩)
    · rw [ew, evsSince_self]
      exact ⟨ew ▸ hw, ew ▸ hd, ew ▸ hpl, ew ▸ hc, ew ▸ hold, fun p hp ha => (hh p hp (ew ▸ ha)).trans ev.symm⟩
    · exact RInv.notified (o := { o with val := v }) hw hd hpl hc hold
  cases op with
  | assign v =>
    refine upd (o.assign (fun _ => []) (· == ·) v) ?_
    unfold Obsv.assign
    split
    · exact Or.inr ⟨v, rfl⟩
    · exact Or.inl ⟨rfl, rfl⟩
  | apply f =>
    refine upd (o.apply (fun _ => []) (· == ·) f) ?_
    unfold Obsv.apply
    simp only []
    split
    · exact Or.inr ⟨f o.val, rfl⟩
    · next he => exact Or.inl ⟨rfl, (eq_of_beq (by simpa using he)).symm⟩
  | pre f => exact upd _ (Or.inr ⟨f o.val, rfl⟩)
  | post f => exact upd _ (Or.inr ⟨f o.val, rfl⟩)
  | sub =>
    show RInv (o.subscribe [], (o.w.counter, o.val) :: storeAll cells (calls (evsSince o.w (o.subscribe []).w)))
    rw [show evsSince o.w (o.subscribe []).w = [] from evsSince_self o.w]
    -- the new subscriber's id is `counter`, which no cell has; its cell starts with `value()`
    have mem_act : ∀ {i}, i ∈ (o.subscribe []).w.active → i = o.w.counter ∨ i ∈ o.w.active := mem_insertSet.1
    refine ⟨(subscribeSlot_inRound hw [] false).wf, hd, ?_, ?_, ?_, ?_⟩
    · intro x hx
      rcases List.mem_cons.1 (show x ∈ (⟨o.w.counter, true, false, []⟩ : Obs) :: o.w.obs from hx) with rfl | hx
      · exact ⟨rfl, rfl, rfl⟩
      · exact hpl x hx
    · intro i hi
      rcases mem_act hi with rfl | hi
      · exact ⟨_, List.mem_cons_self, rfl⟩
      · obtain ⟨p, hp, hpi⟩ := hc i hi
        exact ⟨p, List.mem_cons_of_mem _ hp, hpi⟩
    · intro p hp
      show p.1 < o.w.counter + 1
      rcases List.mem_cons.1 hp with rfl | hp
      · exact Nat.lt_succ_self _
      · exact Nat.lt_succ_of_lt (hold p hp)
    · intro p hp ha
      rcases List.mem_cons.1 hp with rfl | hp
      · rfl
      · exact hh p hp ((mem_act ha).resolve_left (Nat.ne_of_lt (hold p hp)))
  | unsub hi =>
    show RInv (o.unsubscribe hi, storeAll cells (calls (evsSince o.w (o.unsubscribe hi).w)))
    obtain ⟨l, hsub⟩ := unsubSlot_sub o.w hi
    have h' := unsubSlot_atTop hw hd hi
    rw [show calls (evsSince o.w (o.unsubscribe hi).w) = [] from l.calls]
    exact .of_shrink (o' := o.unsubscribe hi) hw hpl h' hsub hc hold fun p hp ha => hh p hp (active_sub hw h' hsub _ ha)

theorem rrun_inv [BEq T] [LawfulBEq T] (ops : List (OOp T)) : ∀ {s : Obsv T × Cells T}, RInv s → RInv (rrun (· == ·) s ops) := by
  induction ops with
  | nil => intro s h; exact h
  | cons op ops ih => intro s h; exact ih (rstep_inv h op)

end Tulz.Observable
