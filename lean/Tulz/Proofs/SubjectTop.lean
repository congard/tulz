import Tulz.Proofs.Subject
/-
  Top-level operations on a Subject (no notification in progress), where observers are destroyed.
  * `Top`    what a top-level operation may do, phrased with the memory monitor: from a monitor state consistent with the
             world (`MonInv`) its events are accepted and lead to a state consistent with the new world
  * `AtTop`  the state such an operation reaches: consistent, notify depth 0, `Top`
  Whatever runs inside a round is `Top` as well (`Ext.toTop`); the one step that destroys is `m_removedObservers.clear()`
  (`clearGrave_atTop`), and both the outermost `notify` and a top-level `unsubscribeById` end with it.
-/
namespace Tulz.Subject
variable {α : Type}

/-- the monitor state between top-level operations: no callback is running, and what has been destroyed
    does not exist any more and will never come back (ids are not reused) -/
def MonInv (w : World α) (m : Mon) : Prop := m.stack = [] ∧ ∀ i ∈ m.freed, ¬ Alive w i ∧ i < w.counter

structure Top (w w' : World α) : Prop where
  sid : w'.sid = w.sid
  counter : w.counter ≤ w'.counter
  live : ∀ i, i < w.counter → Live w' i → Live w i
  ub : w'.ub = w.ub
  tr : ∃ evs, w'.trace = w.trace ++ evs ∧
        (∀ i a, Ev.enter i a ∈ evs → Live w i ∨ w.counter ≤ i) ∧
        (∀ m, MonInv w m → ∃ m', m.run evs = some m' ∧ MonInv w' m')

theorem Top.refl (w : World α) : Top w w :=
  ⟨rfl, Nat.le_refl _, fun _ _ h => h, rfl, ⟨[], (List.append_nil _).symm, fun _ _ h => absurd h List.not_mem_nil, fun m hm => ⟨m, rfl, hm⟩⟩⟩

theorem Top.trans {w₁ w₂ w₃ : World α} (h₁ : Top w₁ w₂) (h₂ : Top w₂ w₃) : Top w₁ w₃ := by
  obtain ⟨e₁, t₁, en₁, m₁⟩ := h₁.tr
  obtain ⟨e₂, t₂, en₂, m₂⟩ := h₂.tr
  refine ⟨h₂.sid.trans h₁.sid, Nat.le_trans h₁.counter h₂.counter, ?_, h₂.ub.trans h₁.ub,
          ⟨e₁ ++ e₂, by rw [t₂, t₁, List.append_assoc], ?_, ?_⟩⟩
  · intro i hi h
    exact h₁.live i hi (h₂.live i (Nat.lt_of_lt_of_le hi h₁.counter) h)
  · intro i a he
    rcases List.mem_append.1 he with he | he
    · exact en₁ i a he
    · exact callable_mono h₁.counter h₁.live (en₂ i a he)
  · intro m hm
    obtain ⟨m', r₁, i₁⟩ := m₁ m hm
    obtain ⟨m'', r₂, i₂⟩ := m₂ m' i₁
    exact ⟨m'', by rw [Mon.run_append, r₁]; exact r₂, i₂⟩

/-- a computation that destroys nothing is fine at top level too -/
theorem Ext.toTop {w w' : World α} (h : Ext w w') : Top w w' := by
  obtain ⟨evs, t, acc, al, en⟩ := h.tr
  refine ⟨h.sid, h.counter, h.live, h.ub, ⟨evs, t, en, ?_⟩⟩
  intro m hm
  -- what the monitor has seen destroyed is neither an old observer nor a new one
  have hfr : ∀ i ∈ m.freed, ¬ Alive w' i := by
    intro i hi ha
    rcases h.fresh i ha with h' | h'
    · exact (hm.2 i hi).1 h'
    · exact absurd (hm.2 i hi).2 (Nat.not_lt.2 h')
  exact ⟨m, acc m fun e he i ht hi => hfr i hi (al e he i ht), hm.1,
         fun i hi => ⟨hfr i hi, Nat.lt_of_lt_of_le (hm.2 i hi).2 h.counter⟩⟩

/-- the state a top-level operation reaches from `w` -/
structure AtTop (w w' : World α) : Prop where
  wf : WF w'
  depth : w'.depth = 0
  top : Top w w'

theorem AtTop.refl {w : World α} (hw : WF w) (hd : w.depth = 0) : AtTop w w := ⟨hw, hd, Top.refl w⟩

theorem AtTop.trans {w₁ w₂ w₃ : World α} (h₁ : AtTop w₁ w₂) (h₂ : AtTop w₂ w₃) : AtTop w₁ w₃ :=
  ⟨h₂.wf, h₂.depth, h₁.top.trans h₂.top⟩

theorem InRound.atTop {w w' : World α} (h : InRound w w') (hd : w.depth = 0) : AtTop w w' :=
  ⟨h.wf, h.depth.trans hd, h.ext.toTop⟩

theorem AtTop.setHandles {w u : World α} (h : AtTop w u) (l : List Handle)
    (hl : ∀ h ∈ l, h.subj = some u.sid → h.obs = h.id) : AtTop w ({ u with handles := l } : World α) :=
  ⟨h.wf.setHandles l hl, h.depth, h.top.sid, h.top.counter, h.top.live, h.top.ub, h.top.tr⟩

/-! ### destruction -/

/-- the monitor accepts the destruction of observers it has not seen destroyed, while no callback runs -/
theorem run_frees (g : List Nat) : ∀ m : Mon, m.stack = [] → (∀ i ∈ g, i ∉ m.freed) → g.Nodup →
    ∃ m', m.run (g.map (Ev.free : Nat → Ev α)) = some m' ∧ m'.stack = [] ∧ ∀ j, j ∈ m'.freed ↔ j ∈ g ∨ j ∈ m.freed := by
  induction g with
  | nil => intro m hs _ _; exact ⟨m, rfl, hs, by simp⟩
  | cons x g ih =>
    intro m hs hfr hnd
    rw [List.nodup_cons] at hnd
    have hx : x ∉ m.freed := hfr x List.mem_cons_self
    obtain ⟨m', r, s', f'⟩ := ih { m with freed := x :: m.freed } hs
      (by intro i hi h; rcases List.mem_cons.1 h with rfl | h
          · exact hnd.1 hi
          · exact hfr i (List.mem_cons_of_mem _ hi) h) hnd.2
    refine ⟨m', ?_, s', fun j => ?_⟩
    · have hxs : x ∉ m.stack := by rw [hs]; exact List.not_mem_nil
      simp only [List.map_cons, Mon.run, Mon.step, hx, hxs, or_self, if_false]
      exact r
    · rw [f', List.mem_cons, List.mem_cons, or_left_comm, or_assoc]

/-- `m_removedObservers.clear()` as the outermost `notify` returns: everything parked is destroyed -/
theorem clearGrave_atTop {w : World α} (hw : WF w) : AtTop w (World.clearGrave { w with depth := 0 }) := by
  have hnd := List.nodup_append.1 hw.nd
  have al : ∀ i, Alive (World.clearGrave { w with depth := 0 }) i ↔ i ∈ ids w.obs := fun i =>
    ⟨fun h => h.resolve_right List.not_mem_nil, Or.inl⟩
  refine ⟨⟨hw.act, ?_, fun i h => hw.lt i (Or.inl ((al i).1 h)), fun _ => rfl, hw.hs⟩, rfl,
          ⟨rfl, Nat.le_refl _, fun _ _ h => h, rfl, ⟨(ids w.grave).map Ev.free, rfl, by simp, ?_⟩⟩⟩
  · show (ids w.obs ++ ids []).Nodup
    rw [show ids ([] : List Obs) = [] from rfl, List.append_nil]
    exact hnd.1
  · intro m hm
    obtain ⟨m', r, s, f⟩ := run_frees (α := α) (ids w.grave) m hm.1 (fun i hi h => (hm.2 i h).1 (Or.inr hi)) hnd.2.1
    refine ⟨m', r, s, fun j hj => ?_⟩
    rw [al]
    rcases (f j).1 hj with h | h
    · exact ⟨fun ha => hnd.2.2 j ha j h rfl, hw.lt j (Or.inr h)⟩
    · exact ⟨fun ha => (hm.2 j h).1 (Or.inl ha), (hm.2 j h).2⟩

/-- a round opened on an idle subject and closed again -/
theorem AtTop.of_round {w w' : World α} {d : Nat} (h : InRound ({ w with depth := d } : World α) w') :
    AtTop w (World.clearGrave { w' with depth := 0 }) :=
  have c := clearGrave_atTop h.wf
  ⟨c.wf, c.depth, (Ext.of_setDepth h.ext).toTop.trans c.top⟩

/-- with nothing parked, destroying an observer at once is parking it and clearing `m_removedObservers` -/
theorem unsubById_eq_park_clear {w : World α} (hd : w.depth = 0) (hg : w.grave = []) (i : Nat) :
    w.unsubscribeById i =
      World.clearGrave { World.unsubscribeById { w with depth := w.depth + 1 } i with depth := 0 } := by
  obtain ⟨sid, obs, active, counter, grave, depth, handles, trace, ub⟩ := w
  cases hd; cases hg
  unfold World.unsubscribeById
  cases obs.find? (fun o => o.id == i) <;> simp [World.clearGrave, World.emit, ids]

theorem unsubById_atTop {w : World α} (hw : WF w) (hd : w.depth = 0) (i : Nat) : AtTop w (w.unsubscribeById i) := by
  rw [unsubById_eq_park_clear hd (hw.g0 hd)]
  exact .of_round (unsubById_inRound hw.bump (Nat.succ_pos _) i)

theorem unsubSlot_atTop {w : World α} (hw : WF w) (hd : w.depth = 0) (hi : Nat) : AtTop w (w.unsubSlot hi).1 := by
  rcases unsubSlot_cases w hi with e | ⟨i, _, e⟩ <;> rw [e]
  · exact .refl hw hd
  · have h := unsubById_atTop hw hd i
    exact h.setHandles _ (h.wf.hs_set_null hi)

theorem pokeTop_fst (w : World α) (hi : Nat) (f : Obs → Obs) : (w.pokeTop hi f).1 = w.pokeSlot hi f := by
  unfold World.pokeTop World.pokeSlot
  split
  · rfl
  · split <;> rfl

/-! ### handle moves -/

theorem mem_moveHandle {hs : List Handle} {d s : Nat} {h : Handle} (hm : h ∈ moveHandle hs d s) : h ∈ hs := by
  unfold moveHandle at hm
  split at hm
  · next x y hd hsrc =>
    split at hm
    · exact hm
    · rcases List.mem_or_eq_of_mem_set hm with hm | rfl
      · rcases List.mem_or_eq_of_mem_set hm with hm | rfl
        · exact hm
        · exact List.mem_of_getElem? hsrc
      · exact List.mem_of_getElem? hd
  · exact hm

theorem mem_moveHandleNew {hs : List Handle} {s : Nat} {h : Handle} (hm : h ∈ moveHandleNew hs s) :
    h ∈ hs ∨ h = Handle.null := by
  unfold moveHandleNew at hm
  split at hm
  · next y hsrc =>
    rcases List.mem_append.1 hm with hm | hm
    · exact List.mem_or_eq_of_mem_set hm
    · cases List.mem_singleton.1 hm; exact Or.inl (List.mem_of_getElem? hsrc)
  · exact Or.inl hm

/-! ### `notify`, `step`, `run` -/

/-- the outermost `notify`: a round one level up, then everything removed during the round is destroyed -/
theorem notify_outer (lib : Nat → List Action) (fuel : Nat) {w : World α} (hw : WF w) (hd : w.depth = 0) (a : α) :
    ∃ inner : World α → α → World α, (∀ a, Good (fun w => inner w a)) ∧
      notify lib fuel w a =
        World.clearGrave { round lib inner w.snapshot { w with depth := w.depth + 1 } a with depth := 0 } := by
  obtain ⟨inner, hin, e⟩ := notify_unfold (α := α) lib fuel
  refine ⟨inner, hin, ?_⟩
  have h0 : (round lib inner w.snapshot { w with depth := w.depth + 1 } a).depth - 1 = 0 := by
    rw [(round_inRound lib hin a w.snapshot hw.bump (Nat.succ_pos _)).depth]
    show w.depth + 1 - 1 = 0
    rw [hd]
  rw [e]
  unfold notifyWith
  simp only [h0, if_true]

theorem notify_atTop (lib : Nat → List Action) (fuel : Nat) {w : World α} (hw : WF w) (hd : w.depth = 0) (a : α) :
    AtTop w (notify lib fuel w a) := by
  obtain ⟨inner, hin, e⟩ := notify_outer lib fuel hw hd a
  rw [e]
  exact .of_round (round_inRound lib hin a w.snapshot hw.bump (Nat.succ_pos _))

/-- new observers get ids the snapshot cannot contain -/
theorem notify_fresh (lib : Nat → List Action) (fuel : Nat) {w : World α} (hw : WF w) (hd : w.depth = 0) (a : α) :
    ∀ i, Alive (notify lib fuel w a) i → Alive w i ∨ w.counter ≤ i := by
  obtain ⟨inner, hin, e⟩ := notify_outer lib fuel hw hd a
  rw [e]
  intro i h
  exact (round_inRound lib hin a w.snapshot hw.bump (Nat.succ_pos _)).ext.fresh i (Or.inl (h.resolve_right List.not_mem_nil))

/-- every top-level operation keeps the world consistent, at depth 0, and is accepted by the monitor -/
theorem step_atTop (lib : Nat → List Action) {w : World α} (hw : WF w) (hd : w.depth = 0) (op : Op α) :
    AtTop w (step lib w op).1 := by
  cases op with
  | sub script m0 => exact (subscribeSlot_inRound hw script m0).atTop hd
  | unsubS hi =>
    simp only [step]
    split
    · exact .refl hw hd
    · exact unsubSlot_atTop hw hd hi
  | unsubH hi =>
    simp only [step]
    split
    · exact .refl hw hd
    · split
      · exact unsubSlot_atTop hw hd hi
      · exact .refl hw hd
  | mute hi => exact pokeTop_fst w hi _ ▸ (pokeSlot_inRound hw hi (noRevive_setMuted true)).atTop hd
  | unmute hi => exact pokeTop_fst w hi _ ▸ (pokeSlot_inRound hw hi (noRevive_setMuted false)).atTop hd
  | inval hi => exact pokeTop_fst w hi _ ▸ (pokeSlot_inRound hw hi noRevive_setInvalid).atTop hd
  | hmove d s => exact (AtTop.refl hw hd).setHandles _ fun h hm => hw.hs h (mem_moveHandle hm)
  | hmoveNew s =>
    refine (AtTop.refl hw hd).setHandles _ fun h hm hs => ?_
    rcases mem_moveHandleNew hm with hm | rfl
    · exact hw.hs h hm hs
    · rfl
  | notify fuel a => exact notify_atTop lib fuel hw hd a

theorem run_atTop (lib : Nat → List Action) (ops : List (Op α)) {w : World α} (hw : WF w) (hd : w.depth = 0) :
    AtTop w (run lib w ops) := by
  induction ops generalizing w with
  | nil => exact .refl hw hd
  | cons op ops ih =>
    have h := step_atTop lib hw hd op
    exact h.trans (ih h.wf h.depth)

end Tulz.Subject
