import Tulz.Props.C02
import Tulz.Proofs.Rwp.Share
/-
  C12 — rwp::Resource lets readers share: no reader waits without a writer.
-/
namespace Rwp

/-- **C12, rendezvous**: a reader that has been admitted (its ticket is below the unlock bound) completes its
    wake-up within two steps that involve only itself and a pending `notify_all` — it does not depend on any other
    thread locking or unlocking (the shared state is unchanged), so readers of one batch may wait for each
    other inside the lock. -/
theorem C12_rendezvous (ps : List (List Kind)) (x : XState) (h : XReach ps x) (i : Nat) (id : Nat) (n : Bool)
    (hi : x.base.ths[i]? = some (.waiting .read id n)) (ha : id < x.base.sh.bound) :
    ∃ k y, k ≤ 2 ∧ XRun k x y ∧ y.base.ths[i]? = some (.holding .read) ∧ y.base.sh = x.base.sh := by
  cases n with
  | true =>
    obtain ⟨y, hs, hy, hsh⟩ := wake_step hi ha
    exact ⟨1, y, Nat.le_succ 1, .step hs (.refl _), hy, hsh⟩
  | false =>
    obtain ⟨_, y, _, hs, hy, hsh⟩ := notify_step h hi ha
    obtain ⟨z, hs2, hz, hsh2⟩ := wake_step hy (hsh ▸ ha)
    exact ⟨2, z, Nat.le_refl 2, .step hs (.step hs2 (.refl _)), hz, hsh2.trans hsh⟩

/-! non-vacuity: writer 0 holds, readers 1 and 2 queue behind it in one entry; after the writer's unlock both tickets
    are below the bound (admitted together) although neither has woken up yet -/
example : ∃ s, Reach 3 s ∧ s.ths[1]? = some (.waiting .read 0 false) ∧ s.ths[2]? = some (.waiting .read 1 false) ∧
    s.sh.bound = 2 := by
  have s1 := Reach.step Reach.init (Step.callFast (init 3) 0 .write rfl rfl)
  have s2 := Reach.step s1 (Step.callSlow _ 1 .read rfl rfl)
  have s3 := Reach.step s2 (Step.callSlow _ 2 .read rfl rfl)
  have s4 := Reach.step s3 (Step.unlockLast _ 0 .write rfl rfl)
  exact ⟨_, s4, rfl, rfl, rfl⟩

end Rwp
