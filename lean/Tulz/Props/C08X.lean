import Tulz.Proofs.PoolX.Own
import Tulz.Proofs.PoolX.Exec
import Tulz.Proofs.PoolX.Stop
/-
  C07 / C08 for tulz::ThreadPool WITH expiring workers and update()  (model: Tulz/Model/PoolX.lean, namespace TPoolX).

  Every theorem is about every state reachable through the code's steps, spurious wake-ups and clock ticks at any moment
  (`Reach` over `SStep`), for every maximum (0 included), every expiry timeout (`none` = negative = no expiry), and every owner
  program of start / clear / stop / update / tick operations on distinct tasks.
-/
namespace TPoolX

variable {max : Nat} {timeout : Option Nat} {prog : List OwnerOp} {s : State}

/-- **C08X (bound)**: the pool never lists more than `max` threads; every worker thread that is not listed has completed
    (`m_isFinished`, i.e. its thread function is at its end) — so at most `max` worker threads are alive; the pool list has
    no duplicates and only refers to threads that were created. -/
theorem C08X_pool_bounded (h : Reach max timeout prog s) :
    s.pool.length ≤ max ∧ (∀ (w : Nat) (wk : Wk), s.ws[w]? = some wk → w ∉ s.pool → wk.pc = .finished) ∧
    s.pool.Nodup ∧ ∀ i ∈ s.pool, i < s.ws.length := by
  obtain ⟨I, hm⟩ := reach_inv h
  exact ⟨hm ▸ I.len, fun _ _ => I.finished_of_not_mem, I.nodup, I.valid⟩

/-- **C07X (ownership)**: every submitted task is in exactly one place — queued, in one worker's hands, or destroyed —
    (`submitted` has no duplicates, so each task is run at most once and destroyed at most once); no task is run twice; a
    destroyed task was either dropped by clear()/stop() without ever having been run, or its run had finished. -/
theorem C07X_ownership (hp : (tasksOf prog).Nodup) (h : Reach max timeout prog s) :
    (s.queue ++ hands s.ws ++ s.destroyed).Perm s.submitted ∧ s.submitted.Nodup ∧ s.runs.Nodup ∧
    ∀ t ∈ s.destroyed, (t ∈ s.dropped ∧ t ∉ s.runs) ∨ t ∈ s.finished := by
  have T := reach_tinv hp h
  exact ⟨T.owned, T.subnd, T.runsnd, T.dest⟩

/-- **C08X (quiescent after stop)**: from the return of `stop()` until the next `start` (in particular in the state right
    after it returned, owner idle) the pool is empty, every worker thread ever created — expired ones included — has
    completed, the queue is empty and every submitted task has been destroyed. -/
theorem C08X_stop_quiescent (hp : (tasksOf prog).Nodup) (h : Reach max timeout prog s) (hst : s.stopped = true) :
    s.pool = [] ∧ (∀ (w : Nat) (wk : Wk), s.ws[w]? = some wk → wk.pc = .finished) ∧ s.queue = [] ∧
    ∀ t ∈ s.submitted, t ∈ s.destroyed := by
  have ⟨hpool, hall, hq, hd⟩ := quiescent (reach_inv h).1 (reach_tinv hp h) hst
  exact ⟨hpool, hall, hq, fun t ht => hd.mem_iff.2 ht⟩

/-- **C08X (progress inside stop)**: while the owner is inside `stop()` (flag cleared … final clear() pending) some step of the
    code is always enabled — the owner's own, or a step of the worker it is joining (which is never blocked un-notified: the flag
    write and the predicate evaluation exclude each other; a running task body is one finite step) — whatever the workers were
    doing: idle, expired, retired but not reaped, completing.  That stop() then RETURNS is `C08X_stop_measure` / `C08X_stop_returns` below. -/
theorem C08X_stop_progress (h : Reach max timeout prog s) (hs : inStop s.owner) : ∃ t, Step s t :=
  stop_progress (reach_inv h).1 (reach_pinv h) hs

/- `TPoolX.xstep?_sound` (Tulz/Proofs/PoolX/Exec.lean): `xstep? s l = some t → Step s t` — the step the driver executes is a step of the
   relation the theorems quantify over. -/

/-! ### non-vacuity: a worker idles past the timeout, update() wakes it, it retires, the next update() reaps it -/

def exProg : List OwnerOp := [.start 1, .tick 10, .update, .update, .start 2, .stop]

/-- start 1; worker 0 runs and deletes task 1 and parks; 10 ms pass; update() wakes it and runs its pool section before the worker has
    completed (nothing reaped); the worker finds the queue empty and 5 + 0 < 10: it leaves its loop and completes — a retired thread
    that is still listed in the pool -/
def exRetiredState : State :=
  { queue := [], running := true, pool := [0], ws := [⟨.finished, 0⟩], owner := .idle [.update, .start 2, .stop], max := 1,
    timeout := some 5, now := 10, submitted := [1], runs := [1], finished := [1], destroyed := [1], dropped := [],
    stopped := false }

theorem exRetired_reach : Reach 1 (some 5) exProg exRetiredState :=
  xrun?_reach (ls := [.owner none, .owner none, .owner none, .worker 0, .worker 0, .worker 0, .worker 0,
                      .owner none, .owner none, .owner none, .owner none, .owner none, .worker 0, .worker 0]) Reach.init (by decide)

/-- the second update() reaps it: an expired, reaped worker — outside the pool and completed -/
def exReapedState : State :=
  { exRetiredState with pool := [], owner := .idle [.start 2, .stop] }

theorem exReaped_reach : Reach 1 (some 5) exProg exReapedState :=
  xrun?_reach (ls := [.owner none, .owner none, .owner none, .owner none]) exRetired_reach (by decide)

example : ∃ s, Reach 1 (some 5) exProg s ∧ s.pool = [] ∧ s.ws = [⟨.finished, 0⟩] ∧ s.now = 10 ∧ s.destroyed = [1] :=
  ⟨exReapedState, exReaped_reach, rfl, rfl, rfl, rfl⟩

/-- start() does not spawn while a completed thread is still listed (retired, not yet reaped): the task stays queued -/
example : ∃ s, Reach 1 (some 5) [.start 1, .tick 10, .update, .start 2] s ∧ s.pool = [0] ∧ s.queue = [2] ∧
    s.owner = .idle [] ∧ ∀ l, xstep? s l = none :=
  ⟨{ queue := [2], running := true, pool := [0], ws := [⟨.finished, 0⟩], owner := .idle [], max := 1,
     timeout := some 5, now := 10, submitted := [1, 2], runs := [1], finished := [1], destroyed := [1], dropped := [],
     stopped := false },
   xrun?_reach (ls := [.owner none, .owner none, .owner none, .worker 0, .worker 0, .worker 0, .worker 0,
                       .owner none, .owner none, .owner none, .owner none, .owner none, .worker 0, .worker 0,
                       .owner none, .owner none, .owner none]) Reach.init (by decide),
   rfl, rfl, rfl, by
     intro l
     cases l with
     | owner wk => cases wk <;> rfl
     | worker w =>
       cases w with
       | zero => rfl
       | succ n => rfl⟩

/-- after the reap, start 2 spawns a fresh worker (index 1) and stop() leaves the quiescent state of C08X_stop_quiescent:
    two workers were created in total, one expired and was reaped, both have completed -/
def exStoppedState : State :=
  { queue := [], running := false, pool := [], ws := [⟨.finished, 0⟩, ⟨.finished, 10⟩], owner := .idle [], max := 1,
    timeout := some 5, now := 10, submitted := [1, 2], runs := [1, 2], finished := [1, 2], destroyed := [1, 2], dropped := [],
    stopped := true }

theorem exStopped_reach : Reach 1 (some 5) exProg exStoppedState :=
  xrun?_reach (ls := [.owner none, .owner none, .owner none, .worker 1, .worker 1, .worker 1,
                      .owner none, .owner none, .worker 1, .worker 1, .owner none, .owner none, .owner none])
    exReaped_reach (by decide)

example : ∃ s, Reach 1 (some 5) exProg s ∧ s.stopped = true ∧ s.ws.length = 2 ∧ s.submitted = [1, 2] :=
  ⟨exStoppedState, exStopped_reach, rfl, rfl, rfl⟩

/-- flag cleared, notify_all done, the owner joins worker 0, which is still in the middle of task 1 -/
def exJoinState : State :=
  { queue := [], running := false, pool := [0], ws := [⟨.running 1, 0⟩], owner := .join [0] [], max := 1, timeout := some 5, now := 0,
    submitted := [1], runs := [1], finished := [], destroyed := [], dropped := [], stopped := false }

/-- that state is reachable and inside stop() (hypothesis of C08X_stop_progress) -/
example : ∃ s, Reach 1 (some 5) [.start 1, .stop] s ∧ inStop s.owner ∧ s.owner = .join [0] [] ∧ (s.ws.map (·.pc)) = [.running 1] :=
  ⟨exJoinState,
   xrun?_reach (ls := [.owner none, .owner none, .owner none, .worker 0, .owner none, .owner none]) Reach.init (by decide),
   inStop_iff.2 rfl, rfl, rfl⟩

example : (tasksOf exProg).Nodup := by decide

/-- the step function is exercised by the reachability witnesses above (`xrun?` iterates `xstep?`) -/
example : xstep? (init 1 (some 5) exProg) (.owner none) ≠ none := by decide

/-- **C08X (measure)**: while the owner is inside `stop()`, every step of the code — of the owner or of any worker, expiring or
    not, retired-but-not-reaped or in the middle of a task — strictly decreases `stopMeasure` (owner: joins still to do; worker:
    steps it can still make once the flag is cleared); a spurious wake-up decreases it too and a clock tick leaves it unchanged. -/
theorem C08X_stop_measure (h : Reach max timeout prog s) (hs : inStop s.owner) {t : State} (hst : SStep s t) :
    stopMeasure t ≤ stopMeasure s ∧ ((∃ d, t = { s with now := s.now + d }) ∨ stopMeasure t < stopMeasure s) :=
  stopMeasure_sstep (reach_pinv h) hs hst

/-- **C08X (stop() returns)**: from any reachable state in which the owner is inside `stop()`, an execution makes at most
    `stopMeasure s` steps of the code before `stop()` has returned (`StopRun s n u`: `n` consecutive code steps, the owner inside
    `stop()` before each of them) — and until then a step is always enabled (`C08X_stop_progress`).  So `stop()` terminates in
    every interleaving, with expiring workers and pending `update()` work as well. -/
theorem C08X_stop_returns (h : Reach max timeout prog s) {n : Nat} {u : State} (r : StopRun s n u) :
    n + stopMeasure u ≤ stopMeasure s :=
  stop_bounded (reach_pinv h) r

/-- non-vacuity: in `exJoinState` the measure is 7 -/
example : stopMeasure exJoinState = 7 ∧ inStop exJoinState.owner := ⟨by decide, inStop_iff.2 rfl⟩

/-- non-vacuity of the refused-thread step (`Step.spawnFail`): `start(1)` whose thread creation fails leaves task 1 queued, the pool
    empty and the owner at its next operation; every theorem above covers what follows (here: `stop()`), since `Reach` includes
    that step -/
example : Reach 1 none [.start 1, .stop]
    { queue := [1], running := true, pool := [], ws := [], owner := .idle [.stop], max := 1, timeout := none, now := 0,
      submitted := [1], runs := [], finished := [], destroyed := [], dropped := [], stopped := false } :=
  Reach.code (Reach.code Reach.init (Step.start _ 1 [.stop] rfl)) (Step.spawnFail _ [.stop] rfl (by decide))

end TPoolX
