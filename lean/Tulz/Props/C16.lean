import Tulz.Proofs.Observable
/-
  C16 — Observable notifies exactly on change, with the new value.
  Model: Tulz/Model/Observable.lean, parametric in the value type `T`, the equality `eq` (= `m_eq`) and the operator
  functions.  `subscribers w` = the subscribed, valid, unmuted observers in subscription order; `calls (evsSince …)`
  = the notification log of the operation.  Hypotheses: the Subject inside is consistent, idle, and its callbacks only
  record (`Plain`); all three hold for every Observable reachable through its public interface (see `C16_reachable`).
-/
namespace Tulz
open Tulz.Subject Tulz.Observable

/-- `operator=`: an `eq`-equal assignment changes nothing at all (stored value untouched, nobody notified); any other
    stores the value and notifies each subscriber exactly once with it. -/
theorem C16_assign {T : Type} (lib : Nat → List Action) (eq : T → T → Bool) (o : Obsv T)
    (hwf : WF o.w) (hd : o.w.depth = 0) (hp : Plain o.w) (v : T) :
    (eq o.val v = true → o.assign lib eq v = o) ∧
    (eq o.val v = false → (o.assign lib eq v).val = v ∧
      calls (evsSince o.w (o.assign lib eq v).w) = (subscribers o.w).map (fun i => (i, v))) := by
  constructor
  · intro h; simp [Obsv.assign, h]
  · intro h
    have e : o.assign lib eq v = Obsv.notifyVal lib { o with val := v } := by simp [Obsv.assign, h]
    rw [e]
    exact notifyVal_spec lib { o with val := v } hwf hd hp

/-- `apply`: the value becomes `f val`; subscribers are notified (once each, with the new value) iff it changed w.r.t. `eq`. -/
theorem C16_apply {T : Type} (lib : Nat → List Action) (eq : T → T → Bool) (o : Obsv T)
    (hwf : WF o.w) (hd : o.w.depth = 0) (hp : Plain o.w) (f : T → T) :
    (o.apply lib eq f).val = f o.val ∧
    calls (evsSince o.w (o.apply lib eq f).w) =
      if eq o.val (f o.val) then [] else (subscribers o.w).map (fun i => (i, f o.val)) := by
  by_cases h : eq o.val (f o.val) = true
  · have e : o.apply lib eq f = { o with val := f o.val } := by simp [Obsv.apply, h]
    rw [e, if_pos h]
    exact ⟨rfl, by rw [evsSince_self]; rfl⟩
  · have e : o.apply lib eq f = Obsv.notifyVal lib { o with val := f o.val } := by simp [Obsv.apply, h]
    rw [e, if_neg h]
    exact notifyVal_spec lib { o with val := f o.val } hwf hd hp

/-- `+=`, `-=`, `*=`, `/=` are `apply (· ⊕ v)`. -/
theorem C16_opAssign {T : Type} (lib : Nat → List Action) (eq : T → T → Bool) (o : Obsv T)
    (hwf : WF o.w) (hd : o.w.depth = 0) (hp : Plain o.w) (op : T → T → T) (v : T) :
    (o.opAssign lib eq op v).val = op o.val v ∧
    calls (evsSince o.w (o.opAssign lib eq op v).w) =
      if eq o.val (op o.val v) then [] else (subscribers o.w).map (fun i => (i, op o.val v)) :=
  C16_apply lib eq o hwf hd hp (fun x => op x v)

/-- `++` / `--` always notify each subscriber once with the new value; the prefix forms return the new value, the
    postfix forms the old one. -/
theorem C16_incdec {T : Type} (lib : Nat → List Action) (o : Obsv T)
    (hwf : WF o.w) (hd : o.w.depth = 0) (hp : Plain o.w) (f : T → T) :
    ((o.pre lib f).1.val = f o.val ∧ (o.pre lib f).2 = f o.val ∧
      calls (evsSince o.w (o.pre lib f).1.w) = (subscribers o.w).map (fun i => (i, f o.val))) ∧
    ((o.post lib f).1.val = f o.val ∧ (o.post lib f).2 = o.val ∧
      calls (evsSince o.w (o.post lib f).1.w) = (subscribers o.w).map (fun i => (i, f o.val))) := by
  have h := notifyVal_spec lib { o with val := f o.val } hwf hd hp
  exact ⟨⟨h.1, h.1, h.2⟩, ⟨h.1, rfl, h.2⟩⟩

/-- With the default equality (`==`, lawful): for every history of `=`, `apply` (hence `+=` …), `++`/`--`, subscribe and
    unsubscribe on a fresh Observable, every current subscriber that stores each notified value and was initialised
    with `value()` at subscription holds `value()`. -/
theorem C16_recorder {T : Type} [BEq T] [LawfulBEq T] (v0 : T) (sid : Nat) (ops : List (OOp T)) :
    let s := rrun (· == ·) (⟨v0, { sid := sid }⟩, []) ops
    (∀ i ∈ s.1.w.active, ∃ p ∈ s.2, p.1 = i) ∧ (∀ p ∈ s.2, p.1 ∈ s.1.w.active → p.2 = s.1.val) := by
  have h := rrun_inv ops (RInv.init v0 sid)
  exact ⟨h.cover, h.holds⟩

/-- the hypotheses of C16_assign … C16_incdec hold for every Observable reachable by such a history -/
theorem C16_reachable {T : Type} [BEq T] [LawfulBEq T] (v0 : T) (sid : Nat) (ops : List (OOp T)) :
    let o := (rrun (· == ·) (⟨v0, { sid := sid }⟩, []) ops).1
    WF o.w ∧ o.w.depth = 0 ∧ Plain o.w := by
  have h := rrun_inv ops (RInv.init v0 sid)
  exact ⟨h.wf, h.depth, h.pl.plain⟩

/-! ### non-vacuity: an Observable<Nat> with two subscribers after a mixed history -/

def c16State : Obsv Nat × Cells Nat :=
  rrun (· == ·) (⟨5, { sid := 0 }⟩, []) [.sub, .assign 7, .sub, .sub, .post (· + 1), .unsub 1, .apply (· * 2), .assign 16]

example : c16State.1.val = 16 ∧ c16State.2 = [(2, 16), (1, 8), (0, 16)] ∧ c16State.1.w.active = [2, 0] := by decide +kernel
example : subscribers c16State.1.w = [0, 2] := by decide +kernel
-- assignment: equal -> nothing, different -> both subscribers once, in order, with the new value
example : c16State.1.assign (fun _ => []) (· == ·) 16 = c16State.1 :=
  (C16_assign _ _ _ (C16_reachable 5 0 _).1 (C16_reachable 5 0 _).2.1 (C16_reachable 5 0 _).2.2 16).1 (by decide)
example : calls (evsSince c16State.1.w (c16State.1.assign (fun _ => []) (· == ·) 3).w) = [(0, 3), (2, 3)] := by decide +kernel
-- a tolerance comparator: |a-b| < 2 counts as equal, the stored value stays
example : ((⟨10, c16State.1.w⟩ : Obsv Nat).assign (fun _ => []) (fun a b => decide (a - b < 2 ∧ b - a < 2)) 11).val = 10 := by decide +kernel
example : ((c16State.1.post (fun _ => []) (· + 1)).2, (c16State.1.pre (fun _ => []) (· + 1)).2) = (16, 17) := by decide +kernel

end Tulz
