import Tulz.Proofs.Thread
import Tulz.Generated.ThreadCaptures
/-
  C20 — tulz::Thread runs its callable once, on a live copy, and reports completion.

  `Thr.Step cfg` (Tulz/Model/Thread.lean) interleaves the starter
      evalArgs ; buildClosure ; spawn ; returnFromStart ; clobberFrame ; poll* ; join ; scopeExit
  with the new thread
      begin ; readCallable ; invokeBegin ; (useSelf | useArgs)* ; invokeEnd ; [delete] ; setFinished ; exit
  in every order (`Reach cfg s`: `s` is reachable by some interleaving; `Run cfg s ls t`: by the label list `ls`).
  `cfg` says how each closure field refers to its entity; for the real code it is `Cfg.ofCaps kind table nargs` with `table`
  the GENERATED capture table (`Tulz.Generated.ThreadCaptures`, rewritten from Thread.h / Thread.cpp on every check run).

  What is proved here is about this model.  The lifetimes (frame slot dies at `returnFromStart`, closure at `exit`, caller
  lvalues and `*this` at `scopeExit` after `join`, the Runnable at `delete`) and the resolution of the syntactic capture modes
  to closure fields (`resolveValueParam`, `resolveRefParam`, `resolveThis`) are transcribed from the C++ rules by hand.
-/
namespace Thread
open Tulz.Generated.ThreadCaptures

/-! ## C20_callable_alive -/

/-- the new thread is about to read, enter, or is running the callable -/
def usesCallable : WPc → Bool
  | .readCallable | .invokeBegin | .inside => true
  | _ => false

/-- **C20_callable_alive**: if the table captures the callable by copy, then in every reachable state in which the new
    thread reads / invokes / runs the callable, the object that holds the callable (the closure field) is alive —
    however late the new thread runs (the starter may have returned from start(), clobbered the frame, be blocked in join). -/
theorem C20_callable_alive (cfg : Cfg) (hcap : cfg.callable = .byCopy) (s : State) (h : Reach cfg s)
    (hu : usesCallable s.wpc = true) : s.alive cfg.callable.obj = true := by
  have hi := reach_inv h
  rw [hcap]
  show s.closureAlive = true
  apply closure_alive hi <;> cases hw : s.wpc <;> simp_all [usesCallable, wIsUnborn, wNotEnded]

/-- **C20_no_dead_access**: with a safe table (callable copied, every argument a reference to a caller lvalue or a copy,
    `this` the pointer) NO step of ANY interleaving accesses an object outside its lifetime: not the callable, not the
    arguments during the call, not `*this` in `m_isFinished = true` / isFinished() / join(), not the Runnable. -/
theorem C20_no_dead_access (cfg : Cfg) (hsafe : cfg.Safe) (s : State) (h : Reach cfg s) : s.badTouch = false :=
  reach_safe hsafe h

/-! ## C20_once -/

/-- **C20_once**: the callable is entered at most once in every run prefix, and exactly once in every complete run
    (`join()` has returned and the caller left the scope): the label `invokeBegin` occurs exactly once. -/
theorem C20_once (cfg : Cfg) (ls : List Lbl) (t : State) (h : Run cfg (init cfg) ls t) :
    ls.count .invokeBegin ≤ 1 ∧ (t.spc = .joined ∨ t.spc = .done → ls.count .invokeBegin = 1) := by
  have hc := run_invokes h
  obtain ⟨p, w, saw, bad, rfl, hcomp, -, -⟩ := inv_iff.1 (reach_inv (run_reach Reach.init h))
  have hc : (if wEntered w then 1 else 0) = 0 + ls.count .invokeBegin := hc
  constructor
  · split at hc <;> omega
  · intro hd
    obtain rfl := ended_of_joined hcomp hd
    exact (Nat.zero_add _ ▸ hc).symm

/-- every incomplete run can continue with a step that is not a poll / use loop, and such steps strictly decrease a measure:
    with finitely many polls and uses every run completes (no deadlock, `join()` returns) -/
theorem C20_completes (cfg : Cfg) (s : State) (h : Reach cfg s) (hnd : s.spc ≠ .done) :
    ∃ l t, Step cfg s l t ∧ l.isLoop = false ∧ measure t < measure s := by
  obtain ⟨l, t, hs, hl⟩ := progress (reach_inv h) hnd
  exact ⟨l, t, hs, hl, measure_decreases (reach_inv h) hs hl⟩

/-! ## C20_finished_after -/

/-- **C20_finished_after**: in every reachable state, `m_isFinished = true` implies the callable has returned; so does an
    observation `isFinished() = true` by the starter; and once `join()` has returned, `m_isFinished` is true. -/
theorem C20_finished_after (cfg : Cfg) (s : State) (h : Reach cfg s) :
    (s.finished = true → s.returned = true) ∧
    (s.sawFinished = true → s.returned = true) ∧
    (s.spc = .joined ∨ s.spc = .done → s.finished = true ∧ s.returned = true) := by
  obtain ⟨p, w, saw, bad, rfl, hcomp, -, hs⟩ := inv_iff.1 (reach_inv h)
  have key : wFlagSet w = true → wReturned w = true := by cases w <;> decide
  refine ⟨key, fun h => key (hs h), fun hd => ?_⟩
  obtain rfl := ended_of_joined hcomp hd
  exact ⟨rfl, rfl⟩

/-! ## C20_runnable -/

/-- **C20_runnable** (state form): for `start(Runnable*)`, in every reachable state the Runnable has been destroyed at most
    once; it is destroyed only after run() was entered exactly once and has returned; `m_isFinished` is set only after the
    destruction; the Runnable is alive exactly until then. -/
theorem C20_runnable (cfg : Cfg) (hk : cfg.kind = .runnable) (s : State) (h : Reach cfg s) :
    s.destroys ≤ 1 ∧
    (s.destroys = 1 → s.invokes = 1 ∧ s.returned = true) ∧
    (s.finished = true → s.destroys = 1) ∧
    (s.heapAlive = true ↔ s.destroys = 0) := by
  obtain ⟨p, w, saw, bad, rfl, -, -, -⟩ := inv_iff.1 (reach_inv h)
  simp only [canon, hk]
  cases w <;> decide

/-- **C20_runnable** (run form): in every complete run of the Runnable instance run() is entered exactly once and the
    Runnable is destroyed exactly once; a run of the callable instance never executes `delete`. -/
theorem C20_runnable_once (cfg : Cfg) (ls : List Lbl) (t : State) (h : Run cfg (init cfg) ls t)
    (hd : t.spc = .joined ∨ t.spc = .done) :
    (cfg.kind = .runnable → ls.count .invokeBegin = 1 ∧ ls.count .delete = 1) ∧
    (cfg.kind = .callable → ls.count .delete = 0) := by
  have hc := run_destroys h
  obtain ⟨p, w, saw, bad, rfl, hcomp, -, -⟩ := inv_iff.1 (reach_inv (run_reach Reach.init h))
  obtain rfl := ended_of_joined hcomp hd
  have hc : (if cfg.kind.isRunnable && wPastDelete .ended then 1 else 0) = 0 + ls.count .delete := hc
  constructor
  · intro hk
    rw [hk] at hc
    exact ⟨(C20_once cfg ls _ h).2 hd, (Nat.zero_add _ ▸ hc).symm⟩
  · intro hk
    rw [hk] at hc
    exact (Nat.zero_add _ ▸ hc).symm

/-! ## the generated table -/

/-- what the safety theorems need from the table of the template `start`, on the syntactic level:
    the callable parameter is captured by copy (explicitly or through `=`) and the lambda is `mutable` (so that the copy can be
    invoked for every callable type, also one with a non-const operator()); the argument pack is captured by reference
    (→ references to the caller's lvalues) or by copy; `this` is the pointer; the body is `invoke; setFinished`. -/
def templateOk (l : LambdaCaps) : Bool :=
  resolveValueParam l.callable == some .byCopy && l.isMutable &&
  (resolveRefParam l.args == some (.byRef .callerLvalue) || resolveRefParam l.args == some .byCopy) &&
  resolveThis l.this == some .byCopy &&
  l.body == [.invoke, .setFinished]

def runnableOk (l : LambdaCaps) : Bool :=
  resolveValueParam l.callable == some .byCopy && resolveThis l.this == some .byCopy &&
  l.body == [.run, .delete, .setFinished]

/-- **C20_captures_ok** — the obligation over the REGENERATED table (kernel `decide`): the template `start` copies the
    callable into a mutable closure, takes the arguments by reference to the caller's lvalues (or by copy) and `this` as the
    pointer, its body is `invoke; setFinished`; `start(Runnable*)` copies the pointer and `this`, its body is
    `run; delete; setFinished`; `join()` is `m_thread.join()`, `isFinished()` returns the flag, the constructor forwards to
    `start`.  On a tree whose template `start` captures `[&]` this is false (finding F10). -/
theorem C20_captures_ok :
    templateOk startTemplate = true ∧ runnableOk startRunnable = true ∧
    joinIsStdJoin = true ∧ isFinishedReadsFlag = true ∧ ctorForwardsToStart = true := by decide

theorem templateOk_safe (l : LambdaCaps) (h : templateOk l = true) (n : Nat) :
    ∃ cfg, Cfg.ofCaps .callable l n = some cfg ∧ cfg.Safe ∧ cfg.kind = .callable ∧ cfg.args.length = n := by
  simp only [templateOk, Bool.and_eq_true, Bool.or_eq_true, beq_iff_eq] at h
  obtain ⟨⟨⟨⟨hc, _⟩, ha⟩, ht⟩, _⟩ := h
  by_cases hn : n = 0
  · refine ⟨⟨.callable, .byCopy, [], .byCopy⟩, ?_, ⟨rfl, by simp, rfl⟩, rfl, by simp [hn]⟩
    simp [Cfg.ofCaps, hc, ht, hn]
  · rcases ha with ha | ha
    · exact ⟨⟨.callable, .byCopy, List.replicate n (.byRef .callerLvalue), .byCopy⟩, by simp [Cfg.ofCaps, hc, ht, hn, ha],
        ⟨rfl, by intro a h; exact Or.inl (List.eq_of_mem_replicate h), rfl⟩, rfl, by simp⟩
    · exact ⟨⟨.callable, .byCopy, List.replicate n .byCopy, .byCopy⟩, by simp [Cfg.ofCaps, hc, ht, hn, ha],
        ⟨rfl, by intro a h; exact Or.inr (List.eq_of_mem_replicate h), rfl⟩, rfl, by simp⟩

/-- the generated tables resolve, for every number of arguments, to a safe configuration -/
theorem C20_generated_safe :
    (∀ n, ∃ cfg, Cfg.ofCaps .callable startTemplate n = some cfg ∧ cfg.Safe ∧ cfg.kind = .callable ∧ cfg.args.length = n) ∧
    (∃ cfg, Cfg.ofCaps .runnable startRunnable 0 = some cfg ∧ cfg.Safe ∧ cfg.kind = .runnable) := by
  refine ⟨templateOk_safe _ C20_captures_ok.1, ?_⟩
  have h := C20_captures_ok.2.1
  simp only [runnableOk, Bool.and_eq_true, beq_iff_eq] at h
  obtain ⟨⟨hc, ht⟩, _⟩ := h
  exact ⟨⟨.runnable, .byCopy, [], .byCopy⟩, by simp [Cfg.ofCaps, hc, ht], ⟨rfl, by simp, rfl⟩, rfl⟩

/-- **C20 for the code as translated**: for the template `start` with any number of lvalue arguments and for
    `start(Runnable*)`, with the capture table generated from the current source: in every reachable state of every
    interleaving nothing dead was accessed, the callable was entered at most once, the flag implies the callable returned. -/
theorem C20_generated (n : Nat) (cfg : Cfg)
    (hcfg : Cfg.ofCaps .callable startTemplate n = some cfg ∨ Cfg.ofCaps .runnable startRunnable 0 = some cfg)
    (s : State) (h : Reach cfg s) :
    s.badTouch = false ∧ s.invokes ≤ 1 ∧ (s.finished = true → s.returned = true) ∧
    (s.spc = .joined ∨ s.spc = .done → s.finished = true ∧ s.invokes = 1) := by
  have hsafe : cfg.Safe := by
    rcases hcfg with hc | hc
    · obtain ⟨c, h1, h2, _⟩ := C20_generated_safe.1 n
      rw [h1] at hc; cases hc; exact h2
    · obtain ⟨c, h1, h2, _⟩ := C20_generated_safe.2
      rw [h1] at hc; cases hc; exact h2
  have hf := C20_finished_after cfg s h
  obtain ⟨p, w, saw, bad, rfl, hcomp, -, -⟩ := inv_iff.1 (reach_inv h)
  refine ⟨reach_safe hsafe h, ?_, hf.1, fun hd => ⟨(hf.2.2 hd).1, ?_⟩⟩
  · show (if wEntered w then 1 else 0) ≤ 1
    split <;> omega
  · obtain rfl := ended_of_joined hcomp hd
    rfl

/-! ## the hypothesis is necessary -/

/-- the run in which the new thread is held back until start() has returned -/
def lateRun : List Lbl := [.evalArgs, .buildClosure, .spawn, .returnFromStart, .clobberFrame, .begin, .readCallable]

/-- **C20_ref_capture_unsafe**: if the closure refers to the by-value parameter of start() by reference (explicit `&ptr` or a
    capture-default `&`, which is what `resolveValueParam` yields for them), there IS a reachable state — the new thread
    scheduled after start() returned — in which the new thread has read the dead frame slot. -/
theorem C20_ref_capture_unsafe (cfg : Cfg) (href : cfg.callable = .byRef .frameSlot) :
    ∃ s t, Reach cfg s ∧ Step cfg s .readCallable t ∧ cfg.callable.obj = .frameSlot ∧ s.alive .frameSlot = false ∧
      t.badTouch = true := by
  have h5 : run? cfg (init cfg) (lateRun.take 6) = some (doBegin (doClobberFrame (doReturnFromStart (doSpawn
      (doBuildClosure cfg (doEvalArgs (init cfg))))))) := by
    simp [lateRun, run?, step?, init, doEvalArgs, doBuildClosure, doSpawn, doReturnFromStart, doClobberFrame, doBegin]
  refine ⟨_, _, run?_reach _ Reach.init h5, Step.readCallable _ rfl, by rw [href]; rfl, rfl, ?_⟩
  simp [doReadCallable, State.touch, isDead, State.alive, href, Cap.obj, Target.obj, doBegin, doClobberFrame, doReturnFromStart,
    doSpawn, doBuildClosure, doEvalArgs, init]

/-- … in terms of the syntactic table: a `&ptr` or default-`&` capture of the callable parameter makes every resolved
    configuration unsafe -/
theorem C20_ref_capture_unsafe_table (l : LambdaCaps) (k : Kind) (n : Nat) (cfg : Cfg) (h : Cfg.ofCaps k l n = some cfg)
    (hm : l.callable = .byRef ∨ l.callable = .defaultRef) : ∃ s, Reach cfg s ∧ s.badTouch = true := by
  have href : cfg.callable = .byRef .frameSlot := by
    have hr : resolveValueParam l.callable = some (.byRef .frameSlot) := by rcases hm with hm | hm <;> rw [hm] <;> rfl
    simp only [Cfg.ofCaps, hr] at h
    split at h
    · rename_i c t hc _
      cases hc
      cases k
      · simp only at h
        split at h
        · cases h; rfl
        · split at h
          · cases h; rfl
          · cases h
      · simp only at h; cases h; rfl
    · cases h
  obtain ⟨s, t, hr, hs, _, _, hb⟩ := C20_ref_capture_unsafe cfg href
  exact ⟨t, Reach.step hr hs, hb⟩

/-! ## non-vacuity -/

/-- the repaired table `[this, ptr, &args...]() mutable` with two lvalue arguments -/
def exCfg : Cfg := ⟨.callable, .byCopy, [.byRef .callerLvalue, .byRef .callerLvalue], .byCopy⟩
def exRunnable : Cfg := ⟨.runnable, .byCopy, [], .byCopy⟩
/-- the table of `[&]` -/
def exRef : Cfg := ⟨.callable, .byRef .frameSlot, [.byRef .callerLvalue], .byCopy⟩

/-- the late schedule: the starter returns, clobbers, polls; only then the new thread runs to completion; join; scope exit -/
def exLate : List Lbl :=
  [.evalArgs, .buildClosure, .spawn, .returnFromStart, .clobberFrame, .poll, .begin, .readCallable, .invokeBegin, .useSelf,
   .useArgs, .invokeEnd, .setFinished, .poll, .exit, .join, .scopeExit]
/-- the early schedule: the new thread runs inside start(), before it returns -/
def exEarly : List Lbl :=
  [.evalArgs, .buildClosure, .spawn, .begin, .readCallable, .invokeBegin, .returnFromStart, .useSelf, .clobberFrame, .useArgs,
   .invokeEnd, .setFinished, .exit, .poll, .join, .scopeExit]
def exRunnableRun : List Lbl :=
  [.evalArgs, .buildClosure, .spawn, .returnFromStart, .clobberFrame, .begin, .readCallable, .invokeBegin, .useSelf, .invokeEnd,
   .poll, .delete, .setFinished, .exit, .join, .scopeExit]

-- the hypotheses of C20_callable_alive / C20_no_dead_access are satisfiable and the states they speak about are reached:
example : exCfg.Safe ∧ exRunnable.Safe := by decide
example : ∃ s, run? exCfg (init exCfg) (exLate.take 8) = some s ∧ usesCallable s.wpc = true ∧ s.frameAlive = false ∧
    s.alive exCfg.callable.obj = true := ⟨_, rfl, rfl, rfl, rfl⟩
-- complete runs exist (late and early), they end with the flag set, one invocation, nothing dead touched, the starter saw `true`:
example : ∃ s, run? exCfg (init exCfg) exLate = some s ∧ s.spc = .done ∧ s.invokes = 1 ∧ s.finished = true ∧
    s.sawFinished = true ∧ s.badTouch = false := ⟨_, rfl, rfl, rfl, rfl, rfl, rfl⟩
example : ∃ s, run? exCfg (init exCfg) exEarly = some s ∧ s.spc = .done ∧ s.invokes = 1 ∧ s.badTouch = false :=
  ⟨_, rfl, rfl, rfl, rfl⟩
example : ∃ s, run? exRunnable (init exRunnable) exRunnableRun = some s ∧ s.spc = .done ∧ s.invokes = 1 ∧ s.destroys = 1 ∧
    s.heapAlive = false ∧ s.badTouch = false := ⟨_, rfl, rfl, rfl, rfl, rfl, rfl⟩
-- join is really blocked while the new thread runs, and a poll before the callable returned sees `false`:
example : ∃ s, run? exCfg (init exCfg) (exLate.take 9) = some s ∧ step? exCfg s .join = none ∧
    (∃ t, step? exCfg s .poll = some t ∧ t.sawFinished = false) := ⟨_, rfl, rfl, _, rfl, rfl⟩
-- the `[&]` table: the same late schedule reads the dead frame slot; the early one does not at `readCallable` but does at `useSelf`
example : ∃ s, run? exRef (init exRef) (exLate.take 8) = some s ∧ s.badTouch = true := ⟨_, rfl, rfl⟩
example : ∃ s, run? exRef (init exRef) (exEarly.take 6) = some s ∧ s.badTouch = false := ⟨_, rfl, rfl⟩
example : ∃ s, run? exRef (init exRef) (exEarly.take 8) = some s ∧ s.badTouch = true := ⟨_, rfl, rfl⟩
-- a by-copy argument pack (`[=]() mutable`) is safe as well
example : (⟨.callable, .byCopy, [.byCopy, .byCopy], .byCopy⟩ : Cfg).Safe := by decide
-- the unrepaired table is rejected by the obligation, the repaired and the `[=] mutable` ones are accepted
example : templateOk ⟨.defaultRef, .defaultRef, .defaultRef, false, [.invoke, .setFinished]⟩ = false := by decide
example : templateOk ⟨.byCopy, .byRef, .byCopy, true, [.invoke, .setFinished]⟩ = true := by decide
example : templateOk ⟨.defaultCopy, .defaultCopy, .defaultCopy, true, [.invoke, .setFinished]⟩ = true := by decide
example : templateOk ⟨.byCopy, .byRef, .byCopy, true, [.setFinished, .invoke]⟩ = false := by decide

end Thread
