import Tulz.Proofs.RouterIds
/-
C06 — SubjectRouter reaches exactly the observers whose key matches the pattern.

Model: `Tulz/Model/Router.lean` (`rNotify`, `rFlat`, `matchKey`, `run`).  Keys and patterns are written without the
implicit root level.  Every statement holds for an arbitrary regex matcher `rm`, every tree, pattern and history.
-/
namespace Tulz
open Tulz.Router

variable {ρ : Type}

/-- the stored keys are pairwise different: "distinct matched keys" is well defined and no key is visited twice -/
theorem C06_flat_nodup (t : Node) (hwf : WF t) : (rKeys t).Nodup := by
  induction t using Node.induct with
  | h name s cs ih =>
    rw [rKeys_eq, children_mk, List.nodup_cons]
    constructor
    · simp
    · unfold List.Nodup
      rw [List.pairwise_flatMap]
      constructor
      · intro c hc
        exact (ih c hc (hwf.child hc)).map _ (fun a b hab e => hab (List.cons.inj e).2)
      · -- keys below different children differ in their first level
        refine hwf.children_pairwise.imp ?_
        intro c d hne x hx y hy e
        obtain ⟨k1, _, rfl⟩ := List.mem_map.mp hx
        obtain ⟨k2, _, rfl⟩ := List.mem_map.mp hy
        exact hne (List.cons.inj e).1

/-- `notify(pattern, a)` delivers to exactly the valid observers of the stored keys that have as many levels as the
pattern and match it level by level, in map order, each with the value passed; it returns the number of matched keys
that hold a subject. -/
theorem C06_notify {α : Type} (rm : ρ → String → Bool) (t : Node) (hwf : WF t) (hroot : t.name = "")
    (p : List (Level ρ)) (a : α) :
    (rNotify rm a p t).log = ((rFlat t).filter (fun e => matchKey rm p e.1)).flatMap (fun e => subjLog e.2 a)
    ∧ (rNotify rm a p t).count = ((rFlat t).filter (fun e => matchKey rm p e.1 && e.2.isSome)).length := by
  have := notify_spec rm a p rootLevel t hwf
  rwa [if_pos (root_matches rm hroot), if_pos (root_matches rm hroot)] at this

/-- exactly once: when the observer ids stored in the router are pairwise different, no id occurs twice in a delivery log -/
theorem C06_notify_ids_once {α : Type} (rm : ρ → String → Bool) (t : Node) (hwf : WF t) (hroot : t.name = "")
    (hids : (allIds t).Nodup) (p : List (Level ρ)) (a : α) : ((rNotify rm a p t).log.map (·.1)).Nodup := by
  rw [(C06_notify rm t hwf hroot p a).1]
  exact (log_ids_sublist t _ a).nodup hids

/-- after every history of subscribe / unsubscribe / invalidate / shrink / notify on a fresh router the tree is well
formed, so `C06_notify` describes every later notify -/
theorem C06_history (rm : ρ → String → Bool) (ops : List (Op ρ)) (t : Node) (h : run rm emptyRouter ops = some t) :
    WF t ∧ t.name = "" ∧
    ∀ (α : Type) (p : List (Level ρ)) (a : α),
      (rNotify rm a p t).log = ((rFlat t).filter (fun e => matchKey rm p e.1)).flatMap (fun e => subjLog e.2 a)
      ∧ (rNotify rm a p t).count = ((rFlat t).filter (fun e => matchKey rm p e.1 && e.2.isSome)).length := by
  obtain ⟨hs, hn⟩ := run_invariant rm ops emptyRouter t sorted_emptyRouter h
  have hroot : t.name = "" := hn
  exact ⟨hs.wf, hroot, fun α p a => C06_notify rm t hs.wf hroot p a⟩

/-- the children of every node stay strictly increasing by name (iteration order of `std::map`) through every history -/
theorem C06_history_sorted (rm : ρ → String → Bool) (ops : List (Op ρ)) (t : Node)
    (h : run rm emptyRouter ops = some t) : Sorted t :=
  (run_invariant rm ops emptyRouter t sorted_emptyRouter h).1

/-- each observer exactly once, for every history: on a fresh router, after any history in which every subscribe uses an
id that was not used before (the ids are the model's names for the observer objects), no observer occurs twice in the
delivery log of any notify -/
theorem C06_history_once {α : Type} (rm : ρ → String → Bool) (ops : List (Op ρ)) (t : Node) (hfresh : FreshIds [] ops)
    (h : run rm emptyRouter ops = some t) (p : List (Level ρ)) (a : α) : ((rNotify rm a p t).log.map (·.1)).Nodup := by
  obtain ⟨hwf, hroot, _⟩ := C06_history rm ops t h
  exact C06_notify_ids_once rm t hwf hroot (history_ids_nodup rm ops t hfresh h) p a

/-! ### non-vacuity: a concrete history and tree satisfying the hypotheses -/

namespace C06Example

def rmAll : Unit → String → Bool := fun _ _ => true

/-- subscribe under three colliding keys, invalidate one observer, unsubscribe another, shrink, notify -/
def ops : List (Op Unit) :=
  [.subscribe ["a", "b"] 1, .subscribe ["a", "ab"] 2, .subscribe ["a", "ab"] 4, .subscribe ["a"] 3,
   .invalidate ["a", "ab"] 2, .unsubscribe ["a", "b"] 1, .shrink [.re (), .re ()], .notify [.str "a", .str "b"]]

def tree : Node := .mk "" none [.mk "a" (some [⟨3, true⟩]) [.mk "ab" (some [⟨2, false⟩, ⟨4, true⟩]) []]]

theorem reached : run rmAll emptyRouter ops = some tree := by rfl

theorem tree_wf : WF tree := (C06_history rmAll ops tree reached).1

example : (rKeys tree).Nodup := C06_flat_nodup tree tree_wf
example : rKeys tree = [[], ["a"], ["a", "ab"]] := by rfl

/-- the hypotheses of `C06_notify` hold for `tree`, and the delivery is not trivial: the wildcard pattern `/a/.*`
reaches observer 4 (observer 2 is invalid) and counts one key -/
example : (rNotify rmAll "x" [.str "a", .re ()] tree).log = [(4, "x")] ∧ (rNotify rmAll "x" [.str "a", .re ()] tree).count = 1 := by
  have := C06_notify rmAll tree tree_wf rfl [.str "a", .re ()] "x"
  exact ⟨by rfl, by rfl⟩

example : ((rNotify rmAll () [.re (), .re ()] tree).log.map (·.1)).Nodup :=
  C06_notify_ids_once rmAll tree tree_wf rfl (by decide) _ _

example : Sorted tree := C06_history_sorted rmAll ops tree reached

example : ((rNotify rmAll "x" [.re (), .re ()] tree).log.map (·.1)).Nodup :=
  C06_history_once rmAll ops tree (by simp [ops, FreshIds]) reached _ _

end C06Example

end Tulz
