import Tulz.Proofs.PathStr
import Tulz.Proofs.FsTree
import Tulz.Proofs.DirVisitor
/- C18 — Path agrees with the file system and its string operations are consistent.

   String part (proved outright, for every string shorter than `npos = 2^64-1`, i.e. every std::string):
   `C18_name_of_join`, `C18_parent_of_join`, `C18_join_absolute`, `C18_total`.
   Tree part (the OS is specified by `Tulz.Fs.resolve/opendir/ReaddirSpec`, not verified):
   `C18_exists_isFile_isDirectory`, `C18_listChildren`, `C18_size_dir`, `C18_size_sum_files`.
   Visitor part (the OS is specified by `Tulz.Dv.OsSpec`): `C18_visitor_restores`. -/
namespace Tulz
open Tulz.PathStr

/-! ## strings -/

/-- for a non-empty directory `d` and a non-empty separator-free name `n`, the name of `join(d, n)` is `n` -/
theorem C18_name_of_join (d n : Str) (hd : d ≠ []) (hn : n ≠ [] ∧ sepFree n)
    (hlen : d.length + n.length + 1 < npos) : getPathName (join d n) = .ok n := by
  rw [join_shape d n hd hn.2]
  exact getPathName_shape _ _ _ (by decide) hn.2 hn.1 (length_join_shape_lt d n hlen)

/-- … and its parent is `d` without ONE trailing '/' (a trailing backslash is an ordinary character of `d`) -/
theorem C18_parent_of_join (d n : Str) (hd : d ≠ []) (hn : n ≠ [] ∧ sepFree n)
    (hlen : d.length + n.length + 1 < npos) :
    getParentDirectory (join d n) = .ok (if d.getLast? = some '/' then d.dropLast else d) := by
  rw [join_shape d n hd hn.2]
  exact getParentDirectory_shape _ _ _ (by decide) hn.2 hn.1 (length_join_shape_lt d n hlen)

/-- joining an absolute path yields that path -/
theorem C18_join_absolute (p q : Str) (hq : q.head? = some '/') : join p q = q := by
  unfold join
  by_cases hp : p = []
  · simp [hp]
  · simp [hp, (isAbsolutePath_iff q).mpr hq]

/-- `isAbsolute` is "starts with '/'" -/
theorem C18_isAbsolute (s : Str) : isAbsolute s = true ↔ s.head? = some '/' := isAbsolutePath_iff s

/-- no `erase`/`find_last_of` position ever lies outside the string: the Except-valued transcriptions
    (where `erase(idx, …)` with `idx > size()` is `.error .outOfRange`) return `.ok` for EVERY string -/
theorem C18_total (s : Str) :
    (∃ r, getParentDirectory s = .ok r) ∧ (∃ r, getPathName s = .ok r) := by
  refine ⟨?_, _, erase_zero _ _⟩
  have hsp (path : Str) : findLastOf path npos = npos ∨ findLastOf path npos < path.length :=
    (findLastOf_range path npos).imp_right And.left
  unfold getParentDirectory
  dsimp only
  split
  next hc =>
    -- a trailing separator is erased first; `find_last_of` is then asked again about the shorter string
    have hlt := (hsp s).resolve_left (bne_iff_ne.mp ((Bool.and_eq_true _ _).mp hc).1)
    rw [erase_to_end (Nat.le_of_lt hlt) (Nat.sub_le _ _)]
    exact ⟨_, parentTail_ok s _ _ (List.length_take_le' _ _) (hsp _)⟩
  next => exact ⟨_, parentTail_ok s s _ (Nat.le_refl _) (hsp s)⟩

/-! non-vacuity: concrete non-trivial instances (evaluated by the kernel).  `String.reduceToList` first spells the literals
    out as character lists: left to `rfl`, the elaborator decodes them by unfolding, at three times the cost. -/
example : getPathName (join "/tmp/d ir/".toList "é.txt".toList) = .ok "é.txt".toList := by
  simp only [String.reduceToList]; rfl
example : getParentDirectory (join "/tmp/d ir/".toList "é.txt".toList) = .ok "/tmp/d ir".toList := by
  simp only [String.reduceToList]; rfl
example : getParentDirectory (join "a\\".toList "b".toList) = .ok "a\\".toList := by
  simp only [String.reduceToList]; rfl
example : join "x/y".toList "/abs/z".toList = "/abs/z".toList := by decide +kernel
example : getPathName "/".toList = .ok [] ∧ getPathName [] = .ok [] ∧ getParentDirectory "//".toList = .ok [] := by
  simp only [String.reduceToList]; exact ⟨rfl, rfl, rfl⟩
example : ∃ d n : Str, d ≠ [] ∧ (n ≠ [] ∧ sepFree n) ∧ d.length + n.length + 1 < npos :=
  ⟨['/', 'a', '/'], ['b', ' ', 'c'], by decide, ⟨by decide, by unfold sepFree; decide⟩, by decide⟩

/-! ## tree -/
open Tulz.Fs

/-- `exists / isFile / isDirectory` say what the tree says -/
theorem C18_exists_isFile_isDirectory (fs : FsNode) (p : List String) :
    (pExists fs p = true ↔ ∃ n, resolve fs p = some n) ∧
    (pIsFile fs p = true ↔ ∃ b, resolve fs p = some (.file b)) ∧
    (pIsDirectory fs p = true ↔ ∃ cs, resolve fs p = some (.dir cs)) := by
  unfold pIsFile pExists pIsDirectory fopenR opendir
  cases h : resolve fs p with
  | none => simp
  | some n => cases n <;> simp

/-- `listChildren` on a directory returns every entry exactly once and neither "." nor ".." —
    for every order in which `readdir` may deliver the entries -/
theorem C18_listChildren (rd : Entries → List String) (hrd : ReaddirSpec rd) (fs : FsNode) (hwf : WF fs)
    (p : List String) (cs : Entries) (h : resolve fs p = some (.dir cs)) :
    ∃ l, listChildren rd fs p = .ok l ∧ l.Perm (cs.map Prod.fst) ∧ l.Nodup ∧ "." ∉ l ∧ ".." ∉ l := by
  cases WF_resolve hwf h with
  | dir _ hnd hdots hch =>
    have hperm := listLoop_perm rd hrd cs hdots
    have hdot (x : String) (hx : x = "." ∨ x = "..") : x ∉ listLoop (rd cs) [] := fun hm => by
      obtain ⟨e, he, rfl⟩ := List.mem_map.mp (hperm.mem_iff.mp hm)
      exact hx.elim (hdots e he).1 (hdots e he).2
    exact ⟨_, listChildren_of_dir rd h, hperm, hperm.nodup_iff.mpr hnd, hdot _ (.inl rfl), hdot _ (.inr rfl)⟩

/-- errors of `listChildren`: missing path → NotFound, regular file → NotDirectory -/
theorem C18_listChildren_errors (rd : Entries → List String) (fs : FsNode) (p : List String) :
    (resolve fs p = none → listChildren rd fs p = .error .notFound) ∧
    (∀ b, resolve fs p = some (.file b) → listChildren rd fs p = .error .notDirectory) := by
  constructor
  · intro h; simp [listChildren, pExists, fopenR, h]
  · intro b h; simp [listChildren, pExists, fopenR, opendir, h]

/-- `Path::size` of any existing path is the total size of the regular files beneath it (for a regular
    file: its size), for every readdir order; a recursion budget above the depth of the node suffices -/
theorem C18_size_dir (rd : Entries → List String) (hrd : ReaddirSpec rd) (fs : FsNode) (hwf : WF fs)
    (p : List String) (n : FsNode) (h : resolve fs p = some n) (fuel : Nat) (hf : n.depth < fuel) :
    pSize rd fs fuel p = .ok n.fileBytes :=
  pSize_spec rd hrd fs hwf fuel p n h hf

/-- `fileBytes` is the sum over all regular files beneath the node -/
theorem C18_size_sum_files (n : FsNode) : n.fileBytes = n.allFiles.sum :=
  fileBytes_eq_sum_allFiles n

/-- a missing path has no size: NotFound -/
theorem C18_size_missing (rd : Entries → List String) (fs : FsNode) (p : List String) (fuel : Nat)
    (h : resolve fs p = none) : pSize rd fs (fuel + 1) p = .error .notFound := by
  simp [pSize, pExists, fopenR, h]

/-- non-vacuity: a tree with an empty directory, an empty file, nested directories and odd names -/
def exTree : FsNode :=
  .dir [("a b", .dir [("é", .file 7), ("..x", .file 0), ("sub", .dir [("f", .file 1048576)])]), ("empty", .dir []), ("z.", .file 3)]
def exRd (cs : Entries) : List String := ".." :: (cs.map Prod.fst).reverse ++ ["."]
example : pSize exRd exTree 4 [] = .ok 1048586 := by rfl
example : pSize exRd exTree 4 ["a b"] = .ok 1048583 ∧ exTree.allFiles = [7, 0, 1048576, 3] := ⟨by rfl, by rfl⟩
example : listChildren exRd exTree ["a b"] = .ok ["é", "..x", "sub"] := by rfl
example : listChildren exRd exTree ["empty"] = .ok [] ∧ listChildren exRd exTree ["z."] = .error .notDirectory :=
  ⟨by rfl, by rfl⟩
example : exTree.depth = 3 := by rfl

/-! ## DirectoryVisitor -/
open Tulz.Dv

/-- for every well-nested sequence of visitor lifetimes (every destructor has its constructor, all visitors
    destroyed at the end) the working directory after the last destructor is the one before the first
    constructor -/
theorem C18_visitor_restores (os : Os) (valid : String → Prop) (hos : OsSpec os valid)
    (cwd0 cwd : String) (hv : valid cwd0) (evs : List Ev) (h : run os (cwd0, []) evs = some (cwd, [])) :
    cwd = cwd0 := by
  have := (run_inv os valid hos evs (cwd0, []) (cwd, []) hv (by intro v hvm; cases hvm) h).2.2
  simpa [unwind] using this

/-- the same for a block of lifetimes nested inside live visitors: the block leaves the working directory
    (and the outer visitors) as it found them, provided the outer visitors' saved directories are valid -/
theorem C18_visitor_restores_nested (os : Os) (valid : String → Prop) (hos : OsSpec os valid)
    (cwd0 cwd : String) (outer : List Visitor) (hv : valid cwd0) (evs : List Ev)
    (h : run os (cwd0, []) evs = some (cwd, [])) : run os (cwd0, outer) evs = some (cwd0, outer) ∧ cwd = cwd0 := by
  obtain rfl := C18_visitor_restores os valid hos cwd0 cwd hv evs h
  exact ⟨run_frame os outer evs cwd cwd [] [] h, rfl⟩

/-- non-vacuity: an OS whose `chdir` jumps to the given absolute path and fails silently on "/missing"
    and on the empty path; every other non-empty string is a valid working directory -/
def exOs : Os := ⟨fun cwd x => if x = "/missing" ∨ x = "" then cwd else x⟩
def exValid (c : String) : Prop := c ≠ "/missing" ∧ c ≠ ""
example : OsSpec exOs exValid := by
  refine ⟨fun c h => h.2, ?_, ?_⟩
  · intro c x h
    unfold exOs; simp only
    by_cases hx : x = "/missing" ∨ x = ""
    · simpa [hx] using h
    · simp only [hx, if_false]; exact ⟨fun h1 => hx (Or.inl h1), fun h2 => hx (Or.inr h2)⟩
  · intro c c' h _
    unfold exOs; simp only
    have : ¬ (c = "/missing" ∨ c = "") := fun hh => hh.elim h.1 h.2
    simp [this]
example : run exOs ("/r", []) [.ctor "/r/a", .ctor "", .ctor "/r/a/b", .dtor, .ctor "/missing", .dtor, .dtor, .dtor]
    = some ("/r", []) := by decide +kernel
example : (run exOs ("/r", []) [.ctor "/r/a", .ctor "/r/a/b"]).map Prod.fst = some "/r/a/b" := by decide +kernel

end Tulz
