import Tulz.Proofs.Rwp.Live
/-
  C02 — rwp::Resource: every request is eventually granted (no lost wake-up); the idle state is restored.

  `XState` adds to every thread its finite program of lock/unlock pairs; `XStep` has no spurious wake-ups
  (a parked thread moves only after a notification), which is the setting in which a lost wake-up shows.
-/
namespace Rwp

/-- `k` consecutive steps -/
inductive XRun : Nat → XState → XState → Prop
  | refl (x) : XRun 0 x x
  | step {k x y z} : XStep x y → XRun k y z → XRun (k + 1) x z

theorem XRun.reach {ps k x y} (h : XReach ps x) (r : XRun k x y) : XReach ps y := by
  induction r with
  | refl => exact h
  | step hs _ ih => exact ih (XReach.step h hs)

/-- **C02, termination**: every run from a reachable state takes at most `measure x` steps (no thread can spin or
    be woken in vain forever), and a run that cannot be extended has every thread finished — i.e. every
    `lockRead`/`lockWrite` call has returned. With `C02_no_deadlock` this says: every maximal run is finite and
    ends with all requests granted and released. -/
theorem C02_every_run_finishes (ps : List (List Kind)) (x : XState) (h : XReach ps x) :
    (∀ k y, XRun k x y → k + measure y ≤ measure x) ∧
    (∀ k y, XRun k x y → (¬ ∃ z, XStep y z) → allDone y) := by
  constructor
  · intro k y r
    induction r with
    | refl => omega
    | step hs _ ih =>
      have := C02_measure_decreases ps _ _ h hs
      have := ih (XReach.step h hs)
      omega
  · intro k y r hstuck
    apply Classical.byContradiction
    intro hnd
    exact hstuck (C02_no_deadlock ps y (r.reach h) hnd)

/-- **C02, idle state**: after all locks have been released the next read or write request takes the fast path
    (is granted inside its own critical section, without waiting). -/
theorem C02_idle_grants_immediately (ps : List (List Kind)) (x : XState) (h : XReach ps x) (hd : allDone x) (k : Kind) :
    fast x.base.sh k = true := by
  rw [C02_idle_restored ps x h hd]
  cases k <;> rfl

/-! non-vacuity: a writer and a reader program; the run W-call, R-call(parks), W-unlock, notify, R-wake, R-unlock, notify
    reaches a state where everybody is done -/
example : ∃ x, XReach [[.write], [.read]] x ∧ allDone x := by
  have s1 := XStep.callFast (xinit [[.write], [.read]]) 0 .write [] rfl rfl rfl
  have s2 := XStep.callSlow _ 1 .read [] rfl rfl rfl |> XReach.step (XReach.step XReach.init s1)
  have s3 := XReach.step s2 (XStep.unlockLast _ 0 .write rfl rfl)
  have s4 := XReach.step s3 (XStep.notify _ 0 rfl)
  have s5 := XReach.step s4 (XStep.wakeOk _ 1 .read 0 rfl (by decide))
  have s6 := XReach.step s5 (XStep.unlockLast _ 1 .read rfl rfl)
  have s7 := XReach.step s6 (XStep.notify _ 1 rfl)
  refine ⟨_, s7, ?_⟩
  intro i hi
  have : i < 2 := hi
  match i, this with
  | 0, _ => exact ⟨rfl, rfl⟩
  | 1, _ => exact ⟨rfl, rfl⟩

end Rwp
