import Tulz.Props.C04
/-
  C09 — RingBuffer never destroys, duplicates or abandons an element value wrongly.

  In the slot model every destructor call, placement-new, assignment, move-from and read is a partial
  primitive (`Mem.lean`) that fails with `oob` (outside the allocation), `notObject` (destructor or assignment on
  storage holding no object), `overLive` (placement-new over an element that still holds a value — it would be
  abandoned) or `notLive` (reading / moving from a slot without a value).  "Never wrongly" is therefore:
  (a) no operation of a valid history fails, and (b) after every operation the values alive anywhere in the
  model's storage are exactly the contents of the bounded deques — so what an operation destroyed is exactly
  what it logically removed, each once, and nothing holding a value is left behind.
-/
namespace Tulz
variable {α : Type} [DecidableEq α]

/-- **(a)** a valid operation never reads or writes outside the allocation, never runs a destructor on storage
    that holds no element, never constructs over a live element: the model step does not fail with any error. -/
theorem C09_no_bad_access {s : RbStore α} {t : DqStore α} (h : StoreRep s t) (op : RbOp α) (hv : DqStore.valid t op)
    (e : Err) : RbStore.step s op ≠ .error e := by
  obtain ⟨s', hs', _⟩ := step_refines h op hv
  rw [hs']; intro h'; cases h'

/-- **(b)** in related states the multiset of values alive in the model's storage (over all blocks, live slots only;
    moved-from shells hold no value) equals the multiset of deque contents. -/
theorem C09_live_exactly_contents {s : RbStore α} {t : DqStore α} (h : StoreRep s t) :
    (RbStore.liveVals s).Perm (DqStore.allItems t) :=
  h.liveVals_perm

/-- **every history**: after every valid history (push / pop / resize / copy / move / assign / destroy, any
    capacities, both overwrite modes) no step failed and the alive values are exactly the deques' contents. -/
theorem C09_history_live (ops : List (RbOp α)) (hv : DqStore.validFrom ([] : DqStore α) ops) :
    ∃ s' outs, RbStore.run ([] : RbStore α) ops = .ok (s', outs) ∧
      (RbStore.liveVals s').Perm (DqStore.allItems (DqStore.run ([] : DqStore α) ops).1) := by
  obtain ⟨s', hrun, hrep⟩ := C04_history (s := []) (t := []) Rel2.nil ops hv
  exact ⟨s', _, hrun, hrep.liveVals_perm⟩

/-- **destruction**: `~RingBuffer()` runs a destructor on every logical element (each is live, so each call is
    legitimate) and the block it frees holds no value any more — nothing alive is abandoned. -/
theorem C09_drop_destroys_all {b : RB α} {xs : List α} (h : RB.Rep b xs) :
    ∃ d', b.destroyAll = .ok d' ∧ Mem.liveVals d' = [] :=
  RB.destroyAll_ok h

/-- the shrinking `resize` destroys exactly the cut-off tail: its destructor loop succeeds and what stays alive
    is the kept prefix (corollary of `resize_ok` + `liveVals_perm`, stated for the record) -/
theorem C09_resize_destroys_tail {b : RB α} {xs : List α} (h : RB.Rep b xs) (hc : 0 < b.cap) (nc : Nat) (hnc : 0 < nc) :
    ∃ b' k, b.resize nc = .ok (b', k) ∧ (Mem.liveVals b'.data).Perm (xs.take nc) := by
  obtain ⟨b', k, hb, hrep, _⟩ := RB.resize_ok h hc nc
  exact ⟨b', k, hb, hrep.liveVals_perm⟩

/-! non-vacuity: `C04.lean` exhibits a wrapped full buffer satisfying `Rep` and a valid history with
    overwrite, wrap-around, resize, copy and destruction. Here: a history whose final store is empty. -/
example : (DqStore.run ([] : DqStore Nat) [.new 1 2 true, .pushBack 1 5, .pushBack 1 6, .pushBack 1 7, .drop 1]).1 = [] := by
  decide

end Tulz
