import Tulz.Proofs.Pool.Restart
/-
  C07 — tulz::ThreadPool runs every task at most once and owns it until destroyed once.

  `TPool.State` (Tulz/Model/Pool.lean) is a transition system for one owner thread executing any program of
  `start t | clear | stop` operations and up to `max` non-expiring workers, at the granularity of the
  `m_queueMutex` / `m_poolMutex` critical sections of ThreadPool.cpp (16 step kinds, `Step`; `SStep` adds spurious
  wake-ups of parked workers).  `Reach max prog s`: `s` is reachable by any interleaving of `SStep`s.
  Ghost history: `submitted`, `runs` (runBegin events in order), `finished` (runEnd), `destroyed`, `dropped`
  (destroyed by clear()/stop() while still queued), `stopped` (a stop() returned and no start() since).
  The hypothesis `(tasksOf prog).Nodup` says that the owner submits distinct task objects.
-/
namespace TPool

variable {max : Nat} {prog : List OwnerOp} {s : State}

/-- **C07**: every task is executed at most once. -/
theorem C07_run_at_most_once (hp : (tasksOf prog).Nodup) (h : Reach max prog s) : s.runs.Nodup :=
  (List.nodup_append.1 ((reach_hist h).fifo.nodup ((reach_ctl h).submitted_nodup hp))).1

/-- **C07**: every task is destroyed at most once. -/
theorem C07_destroy_at_most_once (hp : (tasksOf prog).Nodup) (h : Reach max prog s) : s.destroyed.Nodup :=
  (List.nodup_append.1 ((reach_hist h).nodup_all ((reach_ctl h).submitted_nodup hp))).2.1

/-- **C07** (key invariant): every submitted task is in exactly one place: still queued, in one worker's hands, or
    destroyed. -/
theorem C07_owned (hp : (tasksOf prog).Nodup) (h : Reach max prog s) :
    (s.queue ++ hands s.ws ++ s.destroyed).Perm s.submitted ∧ s.submitted.Nodup :=
  ⟨(reach_hist h).owned_perm, (reach_ctl h).submitted_nodup hp⟩

/-- **C07**: a task is never destroyed before or during its own execution: a destroyed task that ever started has
    finished; a task that is running is not destroyed; a destroyed task is neither queued nor in anybody's hands
    (so it cannot start later). -/
theorem C07_destroy_after_run (hp : (tasksOf prog).Nodup) (h : Reach max prog s) :
    (∀ t ∈ s.destroyed, t ∈ s.runs → t ∈ s.finished) ∧
    (∀ (w : Nat) (t : Task), s.ws[w]? = some (.running t) → t ∉ s.destroyed) ∧
    (∀ t ∈ s.destroyed, t ∉ s.queue ∧ t ∉ hands s.ws) := by
  have H := reach_hist h
  have hn := (reach_ctl h).submitted_nodup hp
  exact ⟨fun _ => H.destroyed_ok hn, fun _ _ hw hd => (H.destroyed_excl hn hd).2 (mem_hands hw rfl),
    fun _ => H.destroyed_excl hn⟩

/-- **C07**: tasks are dequeued — `runs` is extended inside the dequeueing critical section — in submission order. -/
theorem C07_fifo (hp : (tasksOf prog).Nodup) (h : Reach max prog s) : s.runs.Sublist s.submitted :=
  (List.sublist_append_left _ _).trans (reach_hist h).fifo

/-- **C07** (single worker): with `max = 1` at most one worker thread is alive at any time (a restart spawns a new one
    only after `stop()` joined the old one), so the dequeue order of `C07_fifo` is the execution order. -/
theorem C07_single_worker (h : Reach 1 prog s) {w w' : Nat} {wk wk' : Worker} (hw : s.ws[w]? = some wk)
    (hw' : s.ws[w']? = some wk') (hne : wk ≠ .exited) (hne' : wk' ≠ .exited) : w = w' := by
  have C := reach_ctl h
  have h1 := C.in_pool hw hne
  have h2 := C.in_pool hw' hne'
  have hl := C.max_ok
  rw [C.max_eq] at hl
  cases hp : s.pool with
  | nil => rw [hp] at h1; cases h1
  | cons a l =>
    cases l with
    | nil => rw [hp] at h1 h2; simp at h1 h2; rw [h1, h2]
    | cons b l => rw [hp] at hl; simp at hl

/-- **C07**: after `stop()` has returned (and until the next `start`) no task starts running. -/
theorem C07_no_run_after_stop (h : Reach max prog s) (t : State) (hs : SStep s t) (hst : s.stopped = true) :
    t.runs = s.runs := by
  have hr := ((reach_ctl h).stopped_ok hst).1
  cases hs with
  | spurious w hw => rfl
  | code hc =>
    cases hc with
    | workerTake w wk tk q hw ha hr' hq => rw [hr] at hr'; cases hr'
    | _ => rfl

/-- **C07 (no lost task)**: while the pool is running, a queued task always has somebody who will get to it:
    a worker that is awake, busy or already notified, or the owner still inside `start()` about to spawn/notify. -/
theorem C07_progress (hmax : 1 ≤ max) (h : Reach max prog s) (hq : s.queue ≠ []) (hr : s.running = true) :
    ∃ t, Step s t := queue_progress (reach_ctl h) hmax hq hr

/-- **C07 (quiescent states)**: in a reachable state in which no step of the code is enabled the owner's program is
    finished, every submitted task has been destroyed exactly once, and a task that was not in the queue at a
    clear()/stop() (`∉ dropped`) was run exactly once (and a dropped one never ran). -/
theorem C07_quiescent (hp : (tasksOf prog).Nodup) (hmax : 1 ≤ max) (h : Reach max prog s) (hq : ∀ t, ¬ Step s t) :
    s.owner = .idle [] ∧ s.submitted = tasksOf prog ∧ s.queue = [] ∧
    (∀ t ∈ tasksOf prog, s.destroyed.count t = 1) ∧
    (∀ t ∈ tasksOf prog, (t ∈ s.dropped ∧ s.runs.count t = 0) ∨
                         (t ∉ s.dropped ∧ s.runs.count t = 1 ∧ s.finished.count t = 1)) := by
  have Q := quiescent_of_stuck hp hmax h hq
  exact ⟨Q.owner_done, Q.all_submitted, Q.queue_empty, Q.destroyed_once, Q.fate⟩

/-- **C07 (every run is finite)**: every step of the code strictly decreases `measure`, so a run of `k` steps from a
    reachable state satisfies `k ≤ measure s`; a run that cannot be extended ends in a quiescent state. -/
theorem C07_every_run_finishes (hp : (tasksOf prog).Nodup) (hmax : 1 ≤ max) (h : Reach max prog s) :
    (∀ t, Step s t → measure t < measure s) ∧
    (∀ k u, Run k s u → k + measure u ≤ measure s) ∧
    (∀ k u, Run k s u → (∀ v, ¬ Step u v) → Quiescent prog u) :=
  ⟨fun _ hs => measure_decreases h hs, fun _ _ r => run_bounded h r,
   fun _ _ r hq => quiescent_of_stuck hp hmax (r.reach h) hq⟩

/-! ### non-vacuity -/

/-- program used by the examples: two tasks, stop, restart with a third task, stop -/
def exProg : List OwnerOp := [.start 1, .start 2, .stop, .start 3, .stop]

/-- owner submits 1 and 2 (one worker, `max = 1`), the worker has dequeued 1 and is running it -/
def exLabels1 : List Label :=
  [.owner none, .owner none, .owner none,        -- start 1: enqueue, spawn worker 0, notify (nobody parked)
   .worker 0,                                    -- worker 0 takes task 1
   .owner none, .owner none, .owner none]        -- start 2: enqueue, no spawn (max = 1), notify

/-- … the complete run: both tasks run and are deleted, stop, restart, task 3 dropped by the final stop -/
def exLabels2 : List Label :=
  exLabels1 ++
  [.worker 0, .worker 0, .worker 0, .worker 0, .worker 0,   -- runEnd 1, delete 1, take 2, runEnd 2, delete 2
   .worker 0,                                               -- park
   .owner none, .owner none, .worker 0,                     -- stop: flag, notify_all; worker 0 exits
   .owner none, .owner none, .owner none,                   -- join 0, pool cleared, clear()
   .owner none, .owner none, .owner none,                   -- start 3: enqueue, spawn worker 1, notify
   .owner none, .owner none, .worker 1,                     -- stop: flag, notify_all; worker 1 exits without running 3
   .owner none, .owner none, .owner none]                   -- join 1, pool cleared, clear() destroys 3

theorem exProg_nodup : (tasksOf exProg).Nodup := by decide

def exState1 : State :=
  { queue := [2], running := true, pool := [0], ws := [.running 1], owner := .idle [.stop, .start 3, .stop], max := 1,
    submitted := [1, 2], runs := [1], finished := [], destroyed := [], dropped := [], stopped := false }

def exState2 : State :=
  { queue := [], running := false, pool := [], ws := [.exited, .exited], owner := .idle [], max := 1,
    submitted := [1, 2, 3], runs := [1, 2], finished := [1, 2], destroyed := [1, 2, 3], dropped := [3], stopped := true }

theorem exState1_reach : Reach 1 exProg exState1 :=
  xrun?_reach (ls := exLabels1) Reach.init (by decide)

theorem exState2_reach : Reach 1 exProg exState2 :=
  xrun?_reach (ls := exLabels2) Reach.init (by decide)

/-- a reachable state with one task running in a worker's hands, one queued, none destroyed
    (hypotheses of C07_run_at_most_once … C07_progress are satisfiable, and the conclusions are not trivial) -/
example : ∃ s, Reach 1 exProg s ∧ s.ws[0]? = some (.running 1) ∧ s.queue = [2] ∧ s.runs = [1] ∧ s.running = true :=
  ⟨exState1, exState1_reach, by decide⟩

/-- a reachable stuck state (hypotheses of C07_quiescent): the program has ended; tasks 1, 2 ran once, task 3 was
    dropped by the second stop(); all three destroyed -/
example : ∃ s, Reach 1 exProg s ∧ (∀ t, ¬ Step s t) ∧ s.runs = [1, 2] ∧ s.dropped = [3] ∧ s.destroyed = [1, 2, 3] ∧
    s.stopped = true :=
  ⟨exState2, exState2_reach, stuck_of_stuckB (by decide), by decide⟩

/-- the run `exLabels2` is a `Run` from the initial state whose length is below the measure (C07_every_run_finishes) -/
example : measure (init 1 exProg) = 43 ∧ exLabels2.length = 28 ∧ measure exState2 = 0 := by decide

end TPool
