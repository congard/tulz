import Tulz.Props.C01
import Tulz.Generated.RouterLocks
/-
  C11 — ConcurrentSubjectRouter operations are atomic with respect to each other.

  Composition `CState σ` = rwp lock (`Rwp.State`, any number of threads, every interleaving) × abstract
  router state `σ` × ghosts.  The lock each operation takes is read from the GENERATED table
  `Tulz.Generated.routerLocks` (regenerated from ConcurrentSubjectRouter.h on every run), so a read lock
  where a write lock is needed, a missing guard or a guard constructed as a temporary breaks `C11_table_ok`.
-/
namespace Rwp
open Tulz.Generated

/-- the lock an operation runs under according to the generated table (`unknown` when absent) -/
def tableLockOf (op : ROp) : Guard :=
  match routerLocks.find? (fun e => e.1 == op) with
  | some e => e.2
  | Option.none => .unknown

/-- **C11 (generated obligation)**: every operation of ConcurrentSubjectRouter runs under a named guard on the
    resource, and subscribe / unsubscribe / shrink under the write lock. -/
theorem C11_table_ok : TableOk tableLockOf := by
  intro op
  cases op <;> decide

variable {σ : Type}

theorem CReach.base_reach {lockOf : ROp → Guard} {M : (σ → σ) → Prop} {n : Nat} {r0 : σ} {s : CState σ} (h : CReach lockOf M n r0 s) :
    Reach n s.base := by
  induction h with
  | init => exact Reach.init
  | step _ hs ih =>
    cases hs with
    | lock b' hb => exact Reach.step ih hb
    | mutate i op hm f hf hb => exact ih
    | observe i op hm hb => exact ih

/-- under an adequate table the body of a mutating operation runs only in a thread that holds the write lock -/
theorem TableOk.holds_write {lockOf : ROp → Guard} (hok : TableOk lockOf) {op : ROp} (hm : op.mutates = true)
    {b : State} {i : Nat} (hb : bodyAllowed lockOf b i op) : holds b i .write := by
  simpa only [bodyAllowed, (hok op).2 hm, Guard.kind?, holds] using hb

/-- the invariant: a thread holding the *read* lock has seen the router unchanged since its request was granted,
    and everything its operation has read so far is that state -/
def ReadStable (s : CState σ) : Prop :=
  ∀ i, s.base.ths[i]? = some (.holding .read) → s.snap i = s.cur ∧ ∀ v ∈ s.obs i, v = s.cur

/-- **C11, stability under the read lock**: for every number of threads and every interleaving, while a thread holds
    the read lock (a notify / exists / depth in progress) the router state equals the state at the instant its
    request was granted: no subscribe, unsubscribe or shrink takes effect during a delivery. -/
theorem C11_stable_under_read (lockOf : ROp → Guard) (M : (σ → σ) → Prop) (hok : TableOk lockOf) (n : Nat) (r0 : σ) (s : CState σ)
    (h : CReach lockOf M n r0 s) : ReadStable s := by
  induction h with
  | init =>
    intro i (hi : (List.replicate n Pc.idle)[i]? = some (Pc.holding Kind.read))
    exact nomatch List.eq_of_mem_replicate (mem_of_getElem? hi)
  | @step s t hr hs ih =>
    cases hs with
    | lock b' hb =>
      intro i hi
      show (if newly s.base b' i = true then s.cur else s.snap i) = s.cur ∧
        ∀ v ∈ (if newly s.base b' i = true then [] else s.obs i), v = s.cur
      have hi' : b'.ths[i]? = some (Pc.holding Kind.read) := hi
      by_cases hn : newly s.base b' i = true
      · rw [if_pos hn, if_pos hn]
        exact ⟨rfl, fun v hv => nomatch hv⟩
      · rw [if_neg hn, if_neg hn]
        -- not newly granted: thread `i` held the read lock before this step already
        have hsame : b'.ths[i]? = s.base.ths[i]? :=
          Classical.byContradiction fun hne => hn (by simpa [newly, hi', isHolding] using hi' ▸ hne)
        exact ih i (hsame ▸ hi')
    | mutate j op hm f hf hb =>
      intro i hi
      have hi' : s.base.ths[i]? = some (Pc.holding Kind.read) := hi
      -- the mutating thread holds the write lock, so nobody holds a read lock
      have hj : s.base.ths[j]? = some (Pc.holding Kind.write) := hok.holds_write hm hb
      by_cases e : j = i
      · cases (e ▸ hj).symm.trans hi'
      · exact absurd hi' (C01_writer_alone n s.base hr.base_reach j i e .read hj)
    | observe j op hm hb =>
      intro i hi
      have hi' : s.base.ths[i]? = some (Pc.holding Kind.read) := hi
      obtain ⟨h1, h2⟩ := ih i hi'
      refine ⟨h1, fun v (hv : v ∈ (if i = j then s.obs j ++ [s.cur] else s.obs i)) => ?_⟩
      by_cases e : i = j
      · subst e
        rw [if_pos rfl] at hv
        rcases List.mem_append.mp hv with hv' | hv'
        · exact h2 v hv'
        · exact List.mem_singleton.1 hv'
      · rw [if_neg e] at hv
        exact h2 v hv

/-- **C11, a notify is atomic**: everything one reading operation has looked at (every level of the traversal, every
    subject it delivered to) is the router state of ONE instant — the one at which its lock request was granted,
    which lies between its call and its return. -/
theorem C11_notify_atomic (lockOf : ROp → Guard) (M : (σ → σ) → Prop) (hok : TableOk lockOf) (n : Nat) (r0 : σ) (s : CState σ)
    (h : CReach lockOf M n r0 s) (i : Nat) (hi : s.base.ths[i]? = some (.holding .read)) :
    ∀ v ∈ s.obs i, v = s.snap i := by
  obtain ⟨h1, h2⟩ := C11_stable_under_read lockOf M hok n r0 s h i hi
  intro v hv; rw [h1]; exact h2 v hv

/-- **C11, mutations are exclusive**: when the body of subscribe / unsubscribe / shrink takes effect no other thread
    is inside any operation of the router (holds the resource in any mode). -/
theorem C11_mutation_exclusive (lockOf : ROp → Guard) (M : (σ → σ) → Prop) (hok : TableOk lockOf) (n : Nat) (r0 : σ) (s : CState σ)
    (h : CReach lockOf M n r0 s) (i : Nat) (op : ROp) (hm : op.mutates = true) (hb : bodyAllowed lockOf s.base i op)
    (j : Nat) (hij : i ≠ j) (k : Kind) : ¬ holds s.base j k :=
  C01_writer_alone n s.base h.base_reach i j hij k (hok.holds_write hm hb)

/-- **C11, after unsubscribe**: whenever the current router state satisfies `P` (e.g. "observer o is not subscribed",
    true from the moment the unsubscribe body took effect until a later re-subscription), every state seen by every
    delivery in progress satisfies `P` too: o is not invoked by any notify that is still running or starts later. -/
theorem C11_after_unsubscribe (lockOf : ROp → Guard) (M : (σ → σ) → Prop) (hok : TableOk lockOf) (n : Nat) (r0 : σ) (s : CState σ)
    (h : CReach lockOf M n r0 s) (P : σ → Prop) (hP : P s.cur) (i : Nat) (hi : s.base.ths[i]? = some (.holding .read)) :
    ∀ v ∈ s.obs i, P v := by
  obtain ⟨_, h2⟩ := C11_stable_under_read lockOf M hok n r0 s h i hi
  intro v hv; rw [h2 v hv]; exact hP

/-- the instance for the code as it is now: the generated table -/
theorem C11_for_this_code (M : (σ → σ) → Prop) (n : Nat) (r0 : σ) (s : CState σ) (h : CReach tableLockOf M n r0 s) :
    ReadStable s :=
  C11_stable_under_read tableLockOf M C11_table_ok n r0 s h

/-- the hypothesis is necessary: with a read lock on a mutating operation a reader can see the state change -/
theorem C11_read_lock_is_not_enough :
    ∃ (s : CState Nat), CReach (fun _ => Guard.read) (fun _ => True) 2 0 s ∧ ¬ ReadStable s := by
  let lk : ROp → Guard := fun _ => Guard.read
  have s0 : CReach lk (fun _ => True) 2 (0 : Nat) (cinit 2 0) := CReach.init
  have s1 := CReach.step s0 (CStep.lock _ _ (Step.callFast (init 2) 0 .read rfl rfl))
  have s2 := CReach.step s1 (CStep.lock _ _ (Step.callFast _ 1 .read rfl rfl))
  have s3 := CReach.step s2 (CStep.mutate _ 1 .subscribe rfl (fun x => x + 1) trivial (by show bodyAllowed lk _ 1 .subscribe; unfold bodyAllowed; exact rfl))
  refine ⟨_, s3, ?_⟩
  intro hst
  have := (hst 0 rfl).1
  exact absurd this (by decide)

/-! non-vacuity: a reachable state in which thread 0 delivers under the read lock while thread 1 waits to subscribe -/
example : ∃ s : CState Nat, CReach tableLockOf (fun _ => True) 2 0 s ∧ s.base.ths[0]? = some (.holding .read) ∧
    s.base.ths[1]? = some (.waiting .write 0 false) ∧ s.obs 0 = [0] := by
  have s0 : CReach tableLockOf (fun _ => True) 2 (0 : Nat) (cinit 2 0) := CReach.init
  have s1 := CReach.step s0 (CStep.lock _ _ (Step.callFast (init 2) 0 .read rfl rfl))
  have s2 := CReach.step s1 (CStep.lock _ _ (Step.callSlow _ 1 .write rfl rfl))
  have s3 := CReach.step s2 (CStep.observe _ 0 .notify rfl (by unfold bodyAllowed; exact rfl))
  exact ⟨_, s3, rfl, rfl, rfl⟩

end Rwp
