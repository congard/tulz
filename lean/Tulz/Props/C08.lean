import Tulz.Props.C07
/-
  C08 — tulz::ThreadPool::stop() always terminates and leaves a quiescent, restartable pool; the number of worker
  threads never exceeds the configured maximum.

  Same model as C07 (Tulz/Model/Pool.lean; REPAIRED code of finding F6: `stop()` clears `m_isRunning` inside an
  `m_queueMutex` critical section).  The key invariant (`StopInv.phase`): once the owner is past the notify_all of
  `stop()`, the flag is false and no worker is parked un-notified — which needs the flag write and the workers'
  evaluation of the wait predicate to exclude each other.  Owner phases inside `stop()`: `stopNotify` (flag cleared,
  notify_all pending), `join rem` (joining), `clearQ` (pool emptied, final clear() pending) = `inStop`.
-/
namespace TPool

variable {max : Nat} {prog : List OwnerOp} {s : State}

/-- **C08 (bound)**: the pool never holds more than the configured maximum of worker threads, and every worker thread
    that has not exited is in the pool (so at most `max` worker threads are alive). -/
theorem C08_max (h : Reach max prog s) :
    s.pool.length ≤ max ∧ ∀ (w : Nat) (wk : Worker), s.ws[w]? = some wk → wk ≠ .exited → w ∈ s.pool := by
  have C := reach_ctl h
  exact ⟨C.max_eq ▸ C.max_ok, fun w wk hw hne => C.in_pool hw hne⟩

/-- **C08 (progress)**: while the owner is inside `stop()` some step of the code is always enabled — `stop()` cannot
    hang, whatever the workers were doing when it was called (idle, about to wait, waking up, running a task). -/
theorem C08_stop_progress (h : Reach max prog s) (hs : inStop s) : ∃ t, Step s t := by
  refine owner_enabled (reach_ctl h) fun ho => ?_
  rcases hs with ⟨_, h'⟩ | ⟨_, _, h'⟩ | ⟨_, h'⟩ <;> rw [ho] at h' <;> cases h'

/-- **C08 (measure)**: while the owner is inside `stop()`, every step of any thread — spurious wake-ups included —
    strictly decreases the natural number `stopMeasure` (task bodies are finite: `workerRunEnd` is one step). -/
theorem C08_stop_measure (h : Reach max prog s) (hs : inStop s) (t : State) (hst : SStep s t) :
    stopMeasure t < stopMeasure s := stopMeasure_decreases ((reach_ctl h).inStop_not_running hs) hs hst

/-- **C08 (stop() returns)**: at most `stopMeasure s` steps can be taken (by all threads together) while the owner
    stays inside `stop()`; with `C08_stop_progress` (never stuck inside) every fair run leaves `stop()`. -/
theorem C08_stop_returns (h : Reach max prog s) (k : Nat) (u : State) (r : StopRun k s u) : k ≤ stopMeasure s := by
  have := stopRun_bounded h r; omega

/-- **C08 (state after stop)**: the step that returns from `stop()` leaves no pool thread (getThreadCount() = 0), only
    exited workers (so no task is running), an empty queue, the flag cleared — and everything that was still queued
    destroyed. -/
theorem C08_after_stop (h : Reach max prog s) (todo : List OwnerOp) (ho : s.owner = .clearQ todo) (t : State)
    (hst : t = { destroyAll s with owner := .idle todo, stopped := true }) :
    Step s t ∧ t.pool = [] ∧ (∀ (w : Nat) (wk : Worker), t.ws[w]? = some wk → wk = .exited) ∧ t.queue = [] ∧
    t.running = false ∧ (∀ tk ∈ s.queue, tk ∈ t.destroyed) := by
  have C := reach_ctl h
  obtain ⟨hr, _, hp⟩ := C.at ho
  subst hst
  exact ⟨Step.stopClear s todo ho, hp, fun w wk hw => C.outside w wk hw (by rw [hp]; nofun), rfl, hr,
    fun tk htk => List.mem_append_right _ htk⟩

/-- **C08 (stopped states)**: from the return of `stop()` until the next `start` (clear() and further stop() calls
    included) the pool is empty, every worker thread has exited, nothing is queued, nothing is in a worker's hands. -/
theorem C08_stopped_state (h : Reach max prog s) (hst : s.stopped = true) :
    s.pool = [] ∧ (∀ (w : Nat) (wk : Worker), s.ws[w]? = some wk → wk = .exited) ∧ s.queue = [] ∧ s.running = false ∧
    hands s.ws = [] := by
  have C := reach_ctl h
  obtain ⟨hr, hp, hq⟩ := C.stopped_ok hst
  have hex : ∀ (w : Nat) (wk : Worker), s.ws[w]? = some wk → wk = .exited :=
    fun w wk hw => C.outside w wk hw (by rw [hp]; nofun)
  exact ⟨hp, hex, hq, hr, hands_eq_nil fun w wk hw => hex w wk hw ▸ rfl⟩

/-- **C08 (restart)**: in a stopped state whose next owner operation is `start t`
    * the only possible step is the enqueueing critical section of `start`, and after it the only possible step is the
      pool critical section, which spawns a fresh worker (`afterSpawn`: pool = [new], the new worker about to check);
    * that worker can take `t` at once;
    * every run from there is finite (`measure`), and when no step is enabled any more `t` has been run exactly once —
      unless a later clear()/stop() of the program found it still queued (`dropped`); if the rest of the program only
      submits tasks, `t` has been run exactly once. -/
theorem C08_restart (hp : (tasksOf prog).Nodup) (hmax : 1 ≤ max) (h : Reach max prog s) (hst : s.stopped = true)
    (t : Task) (todo : List OwnerOp) (ho : s.owner = .idle (.start t :: todo)) :
    let s1 := afterStart s t todo
    let s2 := afterSpawn s1 todo
    Step s s1 ∧ (∀ u, SStep s u → u = s1) ∧ Step s1 s2 ∧ (∀ u, SStep s1 u → u = s2) ∧
    s2.pool = [s.ws.length] ∧ s2.ws[s.ws.length]? = some .check ∧ s2.queue = [t] ∧ s2.running = true ∧
    (∃ s3, Step s2 s3 ∧ t ∈ s3.runs) ∧
    (∀ k u, Run k s2 u → k + measure u ≤ measure s2) ∧
    (∀ k u, Run k s2 u → (∀ v, ¬ Step u v) →
        (u.runs.count t = 1 ∧ u.finished.count t = 1 ∧ u.destroyed.count t = 1) ∨ t ∈ u.dropped) ∧
    (startsOnly todo → ∀ k u, Run k s2 u → (∀ v, ¬ Step u v) → u.runs.count t = 1 ∧ u.finished.count t = 1) := by
  intro s1 s2
  obtain ⟨hpool, hex, hqueue, _, _⟩ := C08_stopped_state h hst
  have hstep1 : Step s s1 := Step.start s t todo ho
  have hlt : s1.pool.length < s1.max := by
    show s.pool.length < s.max
    rw [hpool, reach_max h]; exact hmax
  have hstep2 : Step s1 s2 := Step.spawnYes s1 todo rfl hlt
  have h2 : Reach max prog s2 := (h.code hstep1).code hstep2
  have hq2 : s2.queue = [t] := congrArg (· ++ [t]) hqueue
  have hw2 : s2.ws[s.ws.length]? = some .check := List.getElem?_concat_length
  have htp : t ∈ tasksOf prog :=
    (reach_ctl h2).prog_tasks ▸ List.mem_append_left _ (List.mem_append_right s.submitted List.mem_cons_self)
  -- fate of t in a stuck state reachable from s2
  have fate : ∀ k u, Run k s2 u → (∀ v, ¬ Step u v) → Quiescent prog u ∧
      ((t ∈ u.dropped ∧ u.runs.count t = 0) ∨ (t ∉ u.dropped ∧ u.runs.count t = 1 ∧ u.finished.count t = 1)) :=
    fun k u r hq => have Q := quiescent_of_stuck hp hmax (r.reach h2) hq; ⟨Q, Q.fate t htp⟩
  refine ⟨hstep1, fun u hu => only_start hex ho hu, hstep2, fun u hu => only_spawn (s := s1) hex rfl hlt hu,
    congrArg (· ++ [s.ws.length]) hpool, hw2, hq2, rfl, ?_, fun k u r => run_bounded h2 r, ?_, ?_⟩
  · exact ⟨_, Step.workerTake s2 s.ws.length .check t [] hw2 rfl rfl hq2, List.mem_append_right s.runs List.mem_cons_self⟩
  · intro k u r hq
    obtain ⟨Q, ⟨hd, _⟩ | ⟨_, h1', h2'⟩⟩ := fate k u r hq
    · exact Or.inr hd
    · exact Or.inl ⟨h1', h2', Q.destroyed_once t htp⟩
  · intro hall k u r hq
    obtain ⟨_, ⟨hd, _⟩ | ⟨_, h1', h2'⟩⟩ := fate k u r hq
    · -- t would have been dropped before it was submitted
      rw [submitting_run (s := s2) hall r] at hd
      have hin : t ∈ s.submitted := (reach_hist h).fate_perm.subset (List.mem_append_right _ hd)
      have hf := (reach_ctl h).prog_tasks ▸ hp
      rw [ho] at hf
      exact absurd rfl ((List.nodup_append.1 hf).2.2 t hin t List.mem_cons_self)
    · exact ⟨h1', h2'⟩

/-! ### non-vacuity -/

/-- inside `stop()` with a worker still running a task (hypotheses of C08_stop_progress / C08_stop_measure):
    owner has cleared the flag and notified, worker 0 is in the middle of task 1, task 2 is still queued -/
def exStopLabels : List Label := exLabels1 ++ [.owner none, .owner none]

def exStopState : State :=
  { queue := [2], running := false, pool := [0], ws := [.running 1], owner := .join [0] [.start 3, .stop], max := 1,
    submitted := [1, 2], runs := [1], finished := [], destroyed := [], dropped := [], stopped := false }

theorem exStopState_reach : Reach 1 exProg exStopState :=
  xrun?_reach (ls := exStopLabels) Reach.init (by decide)

example : ∃ s, Reach 1 exProg s ∧ inStop s ∧ s.ws[0]? = some (.running 1) ∧ stopMeasure s = 6 :=
  ⟨exStopState, exStopState_reach, Or.inr (Or.inl ⟨_, _, rfl⟩), by decide⟩

/-- the state just before `stop()` returns (hypothesis of C08_after_stop), with task 2 still queued:
    … worker 0 finishes and deletes task 1, sees the flag, exits; the owner joins it and empties the pool -/
def exClearQState : State :=
  { queue := [2], running := false, pool := [], ws := [.exited], owner := .clearQ [.start 3, .stop], max := 1,
    submitted := [1, 2], runs := [1], finished := [1], destroyed := [1], dropped := [], stopped := false }

theorem exClearQState_reach : Reach 1 exProg exClearQState :=
  xrun?_reach (ls := exStopLabels ++ [.worker 0, .worker 0, .worker 0, .owner none, .owner none]) Reach.init (by decide)

example : ∃ s todo, Reach 1 exProg s ∧ s.owner = .clearQ todo ∧ s.queue = [2] := ⟨exClearQState, _, exClearQState_reach, rfl, rfl⟩

/-- a stopped state whose next operation is `start 3` (hypotheses of C08_stopped_state and C08_restart) -/
def exStoppedState : State :=
  { queue := [], running := false, pool := [], ws := [.exited], owner := .idle [.start 3, .stop], max := 1,
    submitted := [1, 2], runs := [1], finished := [1], destroyed := [1, 2], dropped := [2], stopped := true }

theorem exStoppedState_reach : Reach 1 exProg exStoppedState :=
  exClearQState_reach.code (Step.stopClear _ _ rfl)

example : ∃ s t todo, Reach 1 exProg s ∧ s.stopped = true ∧ s.owner = .idle (.start t :: todo) :=
  ⟨exStoppedState, 3, _, exStoppedState_reach, rfl, rfl⟩

/-- the same with a program that only submits after the restart (hypothesis `startsOnly todo` of C08_restart) -/
example : ∃ s t todo, Reach 2 [.start 1, .stop, .start 2, .start 3] s ∧ s.stopped = true ∧
    s.owner = .idle (.start t :: todo) ∧ startsOnly todo := by
  refine ⟨{ queue := [], running := false, pool := [], ws := [.exited], owner := .idle [.start 2, .start 3], max := 2,
            submitted := [1], runs := [], finished := [], destroyed := [1], dropped := [1], stopped := true }, 2, [.start 3],
          xrun?_reach (ls := [.owner none, .owner none, .owner none, .owner none, .owner none, .worker 0,
                              .owner none, .owner none, .owner none]) Reach.init (by decide), rfl, rfl, ?_⟩
  intro op hop
  simp at hop; exact ⟨3, hop⟩

end TPool
