import Tulz.Proofs.RingBufferStore
/-
  C04 — RingBuffer behaves as a bounded double-ended queue.

  `RbStore` is the slot-level transcription of RingBuffer.h (several objects, for copy / move /
  assignment / comparison); `DqStore` is the bounded deque of the statement.  Every theorem is for
  every capacity ≥ 1, both overwrite modes, every element type `α`, every head position and
  wrap-around layout (these are universally quantified inside `StoreRep` / `Rep`), and every finite
  history that respects the documented preconditions (`DqStore.valid`).
-/
namespace Tulz
variable {α : Type} [DecidableEq α]

/-- **C04, one operation**: from related states, a valid operation succeeds on the model, returns exactly what
    the bounded deque returns (popped value, reference returned by a push, element, size, capacity, iteration,
    comparison), and leaves related states. -/
theorem C04_op_refines {s : RbStore α} {t : DqStore α} (h : StoreRep s t) (op : RbOp α) (hv : DqStore.valid t op) :
    ∃ s', RbStore.step s op = .ok (s', (DqStore.step t op).2) ∧ StoreRep s' (DqStore.step t op).1 :=
  step_refines h op hv

/-- **C04, every history**: every finite valid history, started from related stores (in particular from no
    objects at all), produces on the model exactly the observations of the bounded deque. -/
theorem C04_history {s : RbStore α} {t : DqStore α} (h : StoreRep s t) (ops : List (RbOp α))
    (hv : DqStore.validFrom t ops) :
    ∃ s', RbStore.run s ops = .ok (s', (DqStore.run t ops).2) ∧ StoreRep s' (DqStore.run t ops).1 := by
  induction ops generalizing s t with
  | nil => exact ⟨s, rfl, h⟩
  | cons op ops ih =>
    obtain ⟨s1, hs1, hr1⟩ := step_refines h op hv.1
    obtain ⟨s2, hs2, hr2⟩ := ih hr1 hv.2
    exact ⟨s2, RbStore.run_cons_ok hs1 hs2, hr2⟩

/-- the empty stores are related: histories may start from nothing -/
theorem C04_history_from_empty (ops : List (RbOp α)) (hv : DqStore.validFrom ([] : DqStore α) ops) :
    ∃ s', RbStore.run ([] : RbStore α) ops = .ok (s', (DqStore.run ([] : DqStore α) ops).2) :=
  let ⟨s', h, _⟩ := C04_history (s := []) (t := []) Rel2.nil ops hv
  ⟨s', h⟩

/-- **resize keeps the elements nearest the front**: in every layout `resize(nc)` yields capacity `nc`
    and exactly the first `min size nc` elements, in order. -/
theorem C04_resize_keeps_front {b : RB α} {xs : List α} (h : RB.Rep b xs) (hc : 0 < b.cap) (nc : Nat) (hnc : 0 < nc) :
    ∃ b' k, b.resize nc = .ok (b', k) ∧ b'.toList = .ok (xs.take (min xs.length nc)) ∧ b'.size = min xs.length nc ∧ b'.cap = nc := by
  obtain ⟨b', k, hb, hrep, hcap⟩ := RB.resize_ok h hc nc
  refine ⟨b', k, hb, ?_, ?_, hcap⟩
  · rw [Nat.min_comm, ← List.take_eq_take_min]; exact RB.toList_ok hrep
  · rw [← hrep.len_eq, List.length_take, Nat.min_comm]

/-- **insertion into a full overwriting buffer discards the element at the opposite end** and returns a
    reference to the inserted element. -/
theorem C04_push_full_discards_opposite {b : RB α} {xs : List α} (h : RB.Rep b xs) (hc : 0 < b.cap)
    (hfull : b.size = b.cap) (x : α) :
    (∃ b', b.emplaceBack true x = .ok (b', x) ∧ RB.Rep b' (xs.tail ++ [x])) ∧
    (∃ b', b.emplaceFront true x = .ok (b', x) ∧ RB.Rep b' (x :: xs.dropLast)) := by
  have hnl : ¬ xs.length < b.cap := by rw [h.len_eq]; omega
  constructor
  · obtain ⟨b', hb, hrep, _⟩ := RB.emplaceBack_ok true x h hc (Or.inl rfl)
    simp only [Deque.pushBack, hnl, if_false] at hrep
    exact ⟨b', hb, hrep⟩
  · obtain ⟨b', hb, hrep, _⟩ := RB.emplaceFront_ok true x h hc (Or.inl rfl)
    simp only [Deque.pushFront, hnl, if_false] at hrep
    exact ⟨b', hb, hrep⟩

/-- `((a % b) + b) % b` with the truncating `%` of C++ is the mathematical residue, for every `a` -/
theorem modCapI_eq_emod (cap : Nat) (hc : 0 < cap) (a : Int) : RB.modCapI cap a = a % cap := by
  have hc' : (0 : Int) < cap := Int.natCast_pos.mpr hc
  have h1 := Int.lt_tmod_of_pos a hc'
  rw [RB.modCapI, Int.tmod_eq_emod_of_nonneg (by omega), Int.add_emod_right, Int.tmod_eq_emod]
  split
  · rw [Int.natCast_zero, Int.sub_zero, Int.emod_emod]
  · rw [Int.natAbs_natCast, Int.sub_emod_right, Int.emod_emod]

/-- **the signed `modCap` of the C++ equals the unsigned index arithmetic of the model** for the two shapes in
    which it is called: `m_pos + i` and `m_pos - 1`. -/
theorem C04_modCap_signed (cap pos i : Nat) (hc : 0 < cap) :
    RB.modCapI cap ((pos : Int) + (i : Int)) = (((pos + i) % cap : Nat) : Int) ∧
    RB.modCapI cap ((pos : Int) - 1) = (((pos + cap - 1) % cap : Nat) : Int) := by
  rw [modCapI_eq_emod cap hc, modCapI_eq_emod cap hc]
  constructor
  · rw [← Int.natCast_add, Int.natCast_emod]
  · rw [← Int.add_emod_right, show (pos : Int) - 1 + cap = ((pos + cap - 1 : Nat) : Int) by omega, Int.natCast_emod]

/-! ### non-vacuity: the hypotheses are met by concrete, non-trivial states -/

/-- a wrapped, full buffer (`pos = 3`, `size = cap = 5`) holding 10,11,12,13,14 satisfies `Rep` -/
example : RB.Rep (⟨3, 5, 5, [.live 12, .live 13, .live 14, .live 10, .live 11]⟩ : RB Nat) [10, 11, 12, 13, 14] :=
  RB.Rep.of_rot (junk := []) rfl (.inl (by decide)) rfl rfl nofun

/-- a history that wraps around, overwrites and resizes is valid from the empty store -/
example : DqStore.validFrom ([] : DqStore Nat)
    [.new 1 3 true, .pushBack 1 10, .pushBack 1 11, .popFront 1, .pushBack 1 12, .pushBack 1 13,
     .pushBack 1 14, .pushFront 1 9, .resize 1 2, .copy 2 1, .eq 1 2, .drop 1, .drop 2] :=
  -- per operation: the deque it acts on (found by evaluation) and its precondition
  ⟨⟨rfl, by decide⟩,
   ⟨true, ⟨3, []⟩, rfl, by decide, .inl rfl⟩,
   ⟨true, ⟨3, [10]⟩, rfl, by decide, .inl rfl⟩,
   ⟨true, ⟨3, [10, 11]⟩, rfl, nofun⟩,
   ⟨true, ⟨3, [11]⟩, rfl, by decide, .inl rfl⟩,
   ⟨true, ⟨3, [11, 12]⟩, rfl, by decide, .inl rfl⟩,
   ⟨true, ⟨3, [11, 12, 13]⟩, rfl, by decide, .inl rfl⟩,
   ⟨true, ⟨3, [12, 13, 14]⟩, rfl, by decide, .inl rfl⟩,
   ⟨true, ⟨3, [9, 12, 13]⟩, rfl, by decide, by decide⟩,
   ⟨rfl, (true, ⟨2, [9, 12]⟩), rfl⟩,
   ⟨⟨(true, ⟨2, [9, 12]⟩), rfl⟩, (true, ⟨2, [9, 12]⟩), rfl⟩,
   ⟨(true, ⟨2, [9, 12]⟩), rfl⟩,
   ⟨(true, ⟨2, [9, 12]⟩), rfl⟩,
   trivial⟩

end Tulz
