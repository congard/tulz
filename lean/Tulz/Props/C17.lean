import Tulz.Proofs.File
/- C17 — File round-trips bytes exactly and reports sizes and errors truthfully.
   Partial by nature: libc stdio and the kernel are the *specified* dependency `Tulz/Model/Stdio.lean`; every
   theorem below is about `Tulz/Model/File.lean` (File.cpp transcribed) running on that specification. -/
namespace Tulz
open Tulz.Stdio Tulz.FileM

/-- the bytes a list of write calls hands over, in order -/
def written (calls : List WCall) : Bytes := (calls.map WCall.bytes).flatten

/-- once `open` has put the File into the state of sequential writing, `writeFile` adds the written bytes to what the
    file held then -/
theorem writeFile_of_open {d d1 : Disk} {f1 : File} {p : String} {m : Mode} {c : Bytes}
    (ho : «open» d File.closed p m = (d1, f1, .ok ())) (hinv : FInv d1 f1 p c) (calls : List WCall) :
    ∃ d', writeFile d p m calls = .ok d' ∧ d'.content p = c ++ written calls ∧ d'.isFile p = true ∧ d'.isDir p = false := by
  obtain ⟨d2, f2, hw, st, _, _, _, hc, hf, hd⟩ := writeAll_inv calls d1 f1 p c hinv
  refine ⟨d2, ?_, hc, hf, hd⟩
  unfold writeFile
  rw [ho]
  dsimp only
  rw [hw]

/-- write modes truncate: whatever the file held, after `open(write mode); write…; close` it holds exactly the
    written bytes — for every split into calls and every mix of the three `write` overloads -/
theorem C17_truncate (d : Disk) (p : String) (m : Mode) (hm : m = .write ∨ m = .writeText)
    (hdir : d.isDir p = false) (calls : List WCall) :
    ∃ d', writeFile d p m calls = .ok d' ∧ d'.content p = written calls ∧ d'.isFile p = true ∧ d'.isDir p = false := by
  obtain ⟨d1, f1, ho, hinv⟩ := open_write d File.closed p m hm hdir
  exact writeFile_of_open ho hinv calls

/-- append modes add after the existing content (a missing file counts as empty) -/
theorem C17_append (d : Disk) (p : String) (m : Mode) (hm : m = .append ∨ m = .appendText)
    (hdir : d.isDir p = false) (calls : List WCall) :
    ∃ d', writeFile d p m calls = .ok d' ∧ d'.content p = d.content p ++ written calls ∧
      d'.isFile p = true ∧ d'.isDir p = false := by
  obtain ⟨d1, f1, ho, hinv⟩ := open_append d File.closed p m hm hdir
  exact writeFile_of_open ho hinv calls

/-- reading a regular file back in a read mode yields its bytes exactly, through `read()`, `readStr()` and
    `read(buffer, size, count)` with a buffer that can hold the file; no array cell stays uninitialised -/
theorem C17_read_back (d : Disk) (p : String) (rm : Mode) (hrm : rm = .read ∨ rm = .readText)
    (hf : d.isFile p = true) (hdir : d.isDir p = false) :
    readFile d p rm .read = .ok ((d.content p).map some) ∧
    readFile d p rm .readStr = .ok ((d.content p).map some) ∧
    ∀ size count, (d.content p).length ≤ size * count →
      readFile d p rm (.readBuf size count) = .ok ((d.content p).map some) := by
  obtain ⟨d', f, ho, hd, hinv⟩ := open_read d File.closed p rm hrm hf hdir
  rw [hd] at ho
  obtain ⟨f', hread, _⟩ := read_spec d f p 0 hinv
  refine ⟨?_, ?_, ?_⟩
  · rw [readFile, ho]; dsimp only; rw [hread]; rfl
  · rw [readFile, ho]; dsimp only; rw [readStr, hread]; rfl
  · intro size count hge
    obtain ⟨f'', hbuf, _⟩ := readBuf_spec d f p 0 hinv size count
    rw [List.drop_zero, List.take_of_length_le hge] at hbuf
    rw [readFile, ho]; dsimp only; rw [hbuf]; rfl

/-- ROUND TRIP.  Any byte sequence, split in any way into calls of any of the three `write` overloads, written
    in any write or append mode to a path that holds no file yet (or, for the write modes, any old file) and
    closed, is read back identically in both read modes by `read()`, `readStr()` and `read(buffer, …)` -/
theorem C17_roundtrip (d : Disk) (p : String) (wm rm : Mode) (calls : List WCall)
    (hwm : (wm = .write ∨ wm = .writeText) ∨ ((wm = .append ∨ wm = .appendText) ∧ d.content p = []))
    (hrm : rm = .read ∨ rm = .readText) (hdir : d.isDir p = false) :
    ∃ d', writeFile d p wm calls = .ok d' ∧
      readFile d' p rm .read = .ok ((written calls).map some) ∧
      readFile d' p rm .readStr = .ok ((written calls).map some) ∧
      ∀ size count, (written calls).length ≤ size * count →
        readFile d' p rm (.readBuf size count) = .ok ((written calls).map some) := by
  have key : ∃ d', writeFile d p wm calls = .ok d' ∧ d'.content p = written calls ∧ d'.isFile p = true ∧ d'.isDir p = false := by
    rcases hwm with h | ⟨h, hc⟩
    · exact C17_truncate d p wm h hdir calls
    · have := C17_append d p wm h hdir calls
      rwa [hc] at this
  obtain ⟨d', hw, hc, hf, hd⟩ := key
  have := C17_read_back d' p rm hrm hf hd
  rw [hc] at this
  exact ⟨d', hw, this⟩

/-- the `fgetc`/`feof` counting loop of `read()`: on a stream open for reading, positioned anywhere inside the file
    with a clear end-of-file indicator, it stops after exactly (bytes left + 1) evaluations of its condition and has
    counted exactly the bytes left — whatever the bytes are (0xFF is `some 255`, never mistaken for EOF; 0x00, CR and LF
    are bytes like any other) -/
theorem C17_count_loop (d : Disk) (st : Stream) (hr : st.acc = .r ∧ st.dir = false) (he : st.eof = false)
    (hpos : st.pos ≤ (d.content st.path).length) (extra : Nat) :
    ∃ st', countLoop d ((d.content st.path).length - st.pos + 1 + extra) st 0
        = some (st', (d.content st.path).length - st.pos) ∧ st'.pos = (d.content st.path).length := by
  have := countLoop_readable d ((d.content st.path).length - st.pos) st 0 extra hr he (Nat.add_sub_cancel' hpos)
  rw [Nat.zero_add] at this
  exact ⟨_, this, Nat.add_sub_cancel' hpos⟩

/-- … and on a stream that cannot be read (write and append modes) the loop never ends: this is the hang of
    `read()` on an `AppendText` stream, reported by the model as `.hang` (outside the property) -/
theorem C17_count_loop_diverges (d : Disk) (st : Stream) (hr : readable st = false) (he : st.eof = false) (fuel : Nat) :
    countLoop d fuel st 0 = none := countLoop_unreadable d fuel st 0 hr he

/-- `size()` on any open File, in any mode, at any position: the number of bytes in the file; the position is
    unchanged -/
theorem C17_size (d : Disk) (f : File) (st : Stream) (hopen : f.m_file = some st) :
    ∃ f', size d f = .ok (f', (d.content st.path).length) ∧ tell f' = tell f ∧ tell f = .ok st.pos := by
  have ht : tell f = .ok st.pos := by rw [tell, hopen]; rfl
  -- `tell` of the File that `size_open` names computes to `.ok st.pos`
  exact ⟨_, size_open d f st hopen, ht.symm, ht⟩

/-- opening a missing file in a read mode (or with Mode::None) throws NotFound; opening a directory throws
    NotFile in every mode; in both cases the File object is untouched -/
theorem C17_open_errors (d : Disk) (f : File) (p : String) (m : Mode) :
    (d.isFile p = false → d.isDir p = false → isWriteMode m = false → «open» d f p m = (d, f, .error .notFound)) ∧
    (d.isDir p = true → «open» d f p m = (d, f, .error .notFile)) := by
  constructor
  · intro hf hd hw
    simp [«open», pathExists_eq, hf, hd, hw]
  · intro hd
    simp [«open», pathExists_eq, pathIsDirectory, hd]

/-- HISTORIES.  On a File open for reading on a regular file, every sequence of seek / tell / size / read(buffer) /
    read() / readStr() calls returns exactly what the byte-list specification `runSpec` returns, and the disk is
    never touched (the model functions do not even return one) -/
theorem C17_history (d : Disk) (f : File) (st : Stream) (hopen : f.m_file = some st)
    (hr : st.acc = .r ∧ st.dir = false) (ops : List ROp) :
    ∃ f', runFile d f ops = .ok (f', (runSpec (d.content st.path) st.pos ops).2) ∧
      tell f' = .ok (runSpec (d.content st.path) st.pos ops).1 := by
  obtain ⟨f', h1, st', h2, _, _, h3⟩ := runFile_spec d st.path ops f st.pos ⟨st, hopen, rfl, hr, rfl⟩
  exact ⟨f', h1, by rw [tell, h2, ← h3]; rfl⟩

/-- the same, starting from `open` in a read mode -/
theorem C17_history_from_open (d : Disk) (p : String) (rm : Mode) (hrm : rm = .read ∨ rm = .readText)
    (hf : d.isFile p = true) (hdir : d.isDir p = false) (ops : List ROp) :
    ∃ f f', «open» d File.closed p rm = (d, f, .ok ()) ∧
      runFile d f ops = .ok (f', (runSpec (d.content p) 0 ops).2) := by
  obtain ⟨d', f, ho, hd, hinv⟩ := open_read d File.closed p rm hrm hf hdir
  rw [hd] at ho
  obtain ⟨f', h1, _⟩ := runFile_spec d p ops f 0 hinv
  exact ⟨f, f', ho, h1⟩

/-! non-vacuity: concrete runs of the model (kernel-evaluated) with NUL, 0xFF, CR/LF bytes, an empty chunk,
    element size 2 with a dangling byte, an existing file and a directory on the disk -/
def exDisk : Disk := { files := [("old", [1, 2, 3])], dirs := ["dir"] }
def exCalls : List WCall := [.array [0, 255, 13, 10], .string [], .raw [65, 66, 67, 68, 69] 2, .string [10, 13, 0]]
example : written exCalls = [0, 255, 13, 10, 65, 66, 67, 68, 10, 13, 0] := by decide +kernel
example : (writeFile exDisk "old" .writeText exCalls).toOption.map (·.content "old") = some (written exCalls) := by decide +kernel
example : (writeFile exDisk "old" .appendText exCalls).toOption.map (·.content "old") = some ([1, 2, 3] ++ written exCalls) := by decide +kernel
example : (writeFile exDisk "new" .append exCalls).toOption.map (fun d' => readFile d' "new" .readText .read)
    = some (.ok ((written exCalls).map some)) := by rfl
example : («open» exDisk File.closed "nope" .read).2.2 = .error .notFound ∧
    («open» exDisk File.closed "dir" .write).2.2 = .error .notFile := ⟨by rfl, by rfl⟩
example : (runSpec [7, 255, 0, 9] 0 [.readBuf 3 1, .size, .seek (-1) .current, .tell, .readBuf 2 2, .seek (-9) .end, .read]).2
    = [.buf 1 [7, 255, 0], .nat 4, .int 0, .nat 2, .buf 1 [0, 9], .int (-1), .cells [some 7, some 255, some 0, some 9]] := by decide +kernel

end Tulz
