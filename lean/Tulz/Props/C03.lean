import Tulz.Proofs.Rwp.Fifo
/-
  C03 — rwp::Resource: FIFO fairness, waiting requests are never overtaken.

  `YState` adds ghost arrival stamps: `stamps[i]` is the value of a global clock at thread i's latest
  `lock*()` critical section. "a is pending" = parked with a ticket that is not admitted yet;
  "b is inside" = b holds the lock or has been admitted and is about to wake up.
-/
namespace Rwp

/-- **C03**: pending requests are ordered by arrival: a smaller ticket means an earlier request. -/
theorem C03_pending_order (n : Nat) (y : YState) (h : YReach n y) (a b ida idb sa sb : Nat)
    (ha : pendingAt y.base a ida) (hb : pendingAt y.base b idb) (hlt : ida < idb)
    (hsa : y.stamps[a]? = some sa) (hsb : y.stamps[b]? = some sb) : sa < sb :=
  (yreach_sinv h).order a b ida idb sa sb ha hb hlt hsa hsb

/-- **C03, the exception**: requests that are inside the lock together (granted together, or joined through the
    fast path) are all read requests. -/
theorem C03_admitted_together_are_readers (n : Nat) (s : State) (h : Reach n s) (i j : Nat) (hij : i ≠ j)
    (pi pj : Pc) (hi : s.ths[i]? = some pi) (hj : s.ths[j]? = some pj)
    (hii : Pc.inside s.sh.bound pi = true) (hjj : Pc.inside s.sh.bound pj = true) :
    pi.kind? = some .read ∧ pj.kind? = some .read :=
  (reach_inv h).inside_readers hij hi hj hii hjj

/-- **C03 on executions** (`C03_trace`): if `a` was parked and unadmitted in a reachable
    state in which `b` had no request outstanding, then in every later state in which `b` is inside the lock, that
    request of `a` (identified by its arrival stamp) is no longer pending — a later request is never granted
    before an earlier waiting one. Readers granted together are the case where both are inside. -/
theorem C03_never_granted_before_earlier_waiter (n : Nat) (y1 y2 : YState) (h1 : YReach n y1) (r : YRun y1 y2)
    (a b ida ida' sa : Nat) (ha : pendingAt y1.base a ida) (hsa : y1.stamps[a]? = some sa)
    (hb : y1.base.ths[b]? = some .idle) (hin : insideAt y2.base b) :
    ¬ (pendingAt y2.base a ida' ∧ y2.stamps[a]? = some sa) :=
  C03_trace n y1 y2 h1 r a b ida ida' sa ha hsa hb hin

/-! non-vacuity: writer 0 holds, reader 1 pending (stamp 1), writer 2 pending behind it (stamp 2) -/
example : ∃ y, YReach 3 y ∧ pendingAt y.base 1 0 ∧ pendingAt y.base 2 1 ∧ insideAt y.base 0 := by
  have s1 := YReach.step YReach.init (YStep.callFast (yinit 3) 0 .write rfl rfl)
  have s2 := YReach.step s1 (YStep.callSlow _ 1 .read rfl rfl)
  have s3 := YReach.step s2 (YStep.callSlow _ 2 .write rfl rfl)
  exact ⟨_, s3, ⟨.read, false, rfl, by decide⟩, ⟨.write, false, rfl, by decide⟩, ⟨_, rfl, rfl⟩⟩

end Rwp
