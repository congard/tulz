import Tulz.Proofs.IndexIter
import Tulz.Proofs.RingBuffer
import Tulz.Proofs.Array
/-
  C04 / C14 — the iteration clause: `RandomAccessIndexIterator` (include/tulz/container/RandomAccessIndexIterator.h)
  over a RingBuffer or an Array.

  The C04 and C14 refinement theorems treat "iteration" as one observation (`toList`: `operator[]` at 0 … size-1).
  The theorems below close the gap between that observation and the iterator CLASS the containers hand out: its
  `size_t`/`ptrdiff_t` arithmetic (modulo 2^64, as in the C++), its six comparison operators, and the two loops a
  client writes with it.  They hold for every container state, every size below 2^63 (what a `ptrdiff_t` distance can
  express) and every operator sequence.
-/
namespace Tulz
open Tulz.Iter
variable {α : Type}

/-- **forward iteration over a RingBuffer** — `for (it = begin(); it != end(); ++it) *it` terminates after exactly
    `size()` increments and yields the deque contents in order (every layout: `Rep` quantifies over head position
    and wrap-around). -/
theorem C04_iter_forward {b : RB α} {xs : List α} (h : RB.Rep b xs) (hs : xs.length < 18446744073709551616) :
    walkFwd b.get (mk' b.size) b.size (mk' 0) = .ok (some xs) := by
  rw [← h.len_eq]; exact walkFwd_spec b.get xs (RB.get_ok h) hs

/-- **reverse iteration over a RingBuffer** — `for (it = end(); it != begin();) { --it; *it; }` yields the contents in
    reverse order. -/
theorem C04_iter_backward {b : RB α} {xs : List α} (h : RB.Rep b xs) (hs : xs.length < 18446744073709551616) :
    walkBwd b.get (mk' 0) b.size (mk' b.size) = .ok (some xs.reverse) := by
  rw [← h.len_eq]; exact walkBwd_spec b.get xs (RB.get_ok h) hs

/-- the loop result is the `toList` observation of the C04 refinement theorems -/
theorem C04_iter_is_toList {b : RB α} {xs : List α} (h : RB.Rep b xs) (hs : xs.length < 18446744073709551616) :
    (walkFwd b.get (mk' b.size) b.size (mk' 0)) = (b.toList).map some := by
  rw [C04_iter_forward h hs, RB.toList_ok h]; rfl

/-- **random access** — `*(begin() + i)` is element `i`, `end() - begin()` is `size()`, and `begin() + i < end()`,
    for every `i < size() < 2^63`. -/
theorem C04_iter_random_access {b : RB α} {xs : List α} (h : RB.Rep b xs) (hs : xs.length < 9223372036854775808)
    (i : Nat) (hi : i < xs.length) :
    deref b.get (plus (mk' 0) (i : Int)) = .ok xs[i] ∧
    diff (mk' b.size) (mk' 0) = (b.size : Int) ∧
    blt (plus (mk' 0) (i : Int)) (mk' b.size) = true := by
  have hi' : i < b.size := h.len_eq ▸ hi
  have hH : b.size < H := h.len_eq ▸ hs
  have hW : b.size < W := Nat.lt_trans hH (by decide)
  have e : plus (mk' 0) (i : Int) = ⟨i⟩ := by
    rw [plus, addD_mk', Nat.zero_add, mk'_eq (Nat.lt_trans hi' hW)]
  rw [e]
  exact ⟨RB.get_ok h i hi, diff_mk' b.size 0 (Nat.zero_le _) hH, mk'_eq hW ▸ decide_eq_true hi'⟩

/-- **forward and reverse iteration over an Array** (`begin()/end()` and `cbegin()/cend()` are the same iterator
    class over `Array` / `const Array`) -/
theorem C14_iter_forward [Inhabited α] (vs : List α) (hs : vs.length < 18446744073709551616) :
    walkFwd (Arr.get ⟨ofSpec (vs.map some)⟩) (mk' vs.length) vs.length (mk' 0) = .ok (some vs) ∧
    walkBwd (Arr.get ⟨ofSpec (vs.map some)⟩) (mk' 0) vs.length (mk' vs.length) = .ok (some vs.reverse) := by
  have hget : ∀ i (hi : i < vs.length), Arr.get ⟨ofSpec (vs.map some)⟩ i = .ok vs[i] := fun i hi =>
    Arr.get_spec (vs.map some) i vs[i] (by rw [List.getElem?_map, List.getElem?_eq_getElem hi]; rfl)
  exact ⟨walkFwd_spec _ vs hget hs, walkBwd_spec _ vs hget hs⟩

/-- **iterator arithmetic is integer arithmetic on positions** — for every operator sequence (`++ -- it++ it-- += -= + -`
    interleaved with `*it`, `it - begin()` and comparisons), as long as the position the client means (an unbounded
    integer, possibly negative or past the end in between) stays within `ptrdiff_t`, the iterator's position follows it
    exactly: the `size_t` wrap-around of `m_index` is never observable. -/
theorem C04_iter_script_positions {ε : Type} (get : Nat → Except ε α) :
    ∀ (cs : List Cmd) (a a' : It) (os : List (Obs α)), WF a →
      (∀ (pre : List Cmd) (c : Cmd) (post : List Cmd), cs = pre ++ c :: post →
        -9223372036854775808 ≤ (pre ++ [c]).foldl specMove (pos a) ∧
        (pre ++ [c]).foldl specMove (pos a) < 9223372036854775808) →
      runScript get a cs = .ok (a', os) → pos a' = cs.foldl specMove (pos a) ∧ WF a' := by
  intro cs a a' os h hb hr
  obtain ⟨hw, hp⟩ := runScript_pos get cs a a' (pos a) os h (bmod_pos a).symm hr
  refine ⟨?_, hw⟩
  -- only the bound on the last position is used: the hypothesis at `post = []`
  rcases List.eq_nil_or_concat cs with rfl | ⟨pre, c, rfl⟩
  · exact hp.trans (bmod_pos a)
  · rw [List.concat_eq_append] at hp hb ⊢
    have hc := hb pre c [] rfl
    exact hp.trans (bmod_eq_self hc.1 hc.2)

/-- **the operators agree with each other**: `!=` is the negation of `==`, `>` is `<` swapped, `>=` is the negation of
    `<`, `<=` is `<` or `==`, exactly one of `<`, `==`, `>` holds, `--` undoes `++`, `-= d` undoes `+= d`, the postfix
    forms return the old iterator, `(it + d) - it = d` and `b + (a - b) = a`. -/
theorem C04_iter_operator_laws (a b : It) (ha : WF a) (hb : WF b) (d : Int)
    (hd1 : -9223372036854775808 ≤ d) (hd2 : d < 9223372036854775808) :
    Iter.bne a b = !(beq a b) ∧ bgt a b = blt b a ∧ bge a b = !(blt a b) ∧ ble a b = (blt a b || beq a b) ∧
    (beq a b = true ↔ a = b) ∧
    dec (inc a) = a ∧ inc (dec a) = a ∧ subD (addD a d) d = a ∧ addD (subD a d) d = a ∧
    (postInc a).1 = a ∧ (postInc a).2 = inc a ∧ (postDec a).1 = a ∧ (postDec a).2 = dec a ∧
    diff (plus a d) a = d ∧ plus b (diff a b) = a :=
  ⟨bne_eq_not_beq a b, bgt_eq_blt_swap a b, bge_eq_not_blt a b, ble_eq_blt_or_beq a b, beq_iff a b,
   dec_inc a ha, inc_dec a ha, subD_addD a d ha, addD_subD a d ha, rfl, rfl, rfl, rfl,
   diff_addD a d hd1 hd2, addD_diff a b ha⟩

/-! ### non-vacuity -/

/-- a wrapped, full buffer: the forward loop really runs five steps over the rotated storage -/
example : walkFwd (RB.get (⟨3, 5, 5, [.live 12, .live 13, .live 14, .live 10, .live 11]⟩ : RB Nat)) (mk' 5) 5 (mk' 0)
    = .ok (some [10, 11, 12, 13, 14]) := by rfl

/-- `begin() - 3 + 5` is `begin() + 2`, and `(begin() - 3) - begin()` is `-3`: the wrap-around is real in the model -/
example : plus (minus (mk' 0) 3) 5 = mk' 2 ∧ diff (minus (mk' 0) 3) (mk' 0) = -3 ∧ (minus (mk' 0) 3).idx = 18446744073709551613 := by
  decide

/-- a script that leaves the container on both sides satisfies the bound hypothesis of `C04_iter_script_positions` -/
example : ∀ (pre : List Cmd) (c : Cmd) (post : List Cmd),
    [Cmd.subEq 3, .plus 5, .deref, .postInc, .cmp 3] = pre ++ c :: post →
    -9223372036854775808 ≤ (pre ++ [c]).foldl specMove (pos (mk' 0)) ∧
    (pre ++ [c]).foldl specMove (pos (mk' 0)) < 9223372036854775808 := by
  intro pre c post h
  have hp : pos (mk' 0) = 0 := by decide
  rw [hp]
  match pre, h with
  | [], h => cases h; decide
  | [_], h => cases h; decide
  | [_, _], h => cases h; decide
  | [_, _, _], h => cases h; decide
  | [_, _, _, _], h => cases h; decide
  | _ :: _ :: _ :: _ :: _ :: _, h => simp at h

end Tulz
