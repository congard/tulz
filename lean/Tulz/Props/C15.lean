import Tulz.Proofs.Drf
import Tulz.Generated.AccessTable
/-!
# C15 — data-race freedom of the threading components (PARTIAL by nature; translator-tied)

A data race is not an observable difference in outputs, so the model is tied to the code by a *translator*
(`tools/translators/locksets.py`, re-run on every check), not by a correspondence check.  What is proved, what is
generated and what is assumed:

* **proved, generic** — `C15_discipline_sound`: every well-formed execution (any number of threads, locks, locations,
  any length) that follows a locking discipline is free of data races.  Happens-before = program order ∪
  release→acquire ∪ fork/join; the reader-writer resource enters through its specification C01 (`WF.acqExcl`,
  `WF.acqShared`).
* **generated + kernel-checked** — `C15_table_follows`: every row of the access table extracted from the C++ sources of
  this run follows the hand-written discipline `Tulz.Model.discipline` (evaluated by the kernel, `decide +kernel`).
  An edit of the sources that drops a lock, narrows a critical section, turns an atomic into a plain object, takes a
  read lock where a write happens, or introduces a construct the translator cannot analyse breaks this theorem.
* **proved, generic** — `Tulz.Drf.instance_follows` / `C15_no_race`: an execution all of whose access events are
  *instances* of table rows (definition `IsInstance`) has no data race.
* **ASSUMED** (this is where the proof ends; see `IsInstance` and `tools/components/drf.py`):
  A1 the translator is complete and correct: every access of tulz code to a tulz data member in a real execution is an
     instance of a row, with the locks the row lists really held (semantics of scoped_lock, unique_lock, lock()/unlock(),
     ReadLock/WriteLock, condition_variable::wait), and accesses to `std::atomic` members / mutexes / condition
     variables are not plain accesses;
  A2 real executions are well-formed traces (`WF`): pthread mutex semantics, C01 for `rwp::Resource`, fork/join;
  A3 role assignment: a ThreadPool and its Thread objects are used by one owner thread; each PooledThread /
     PooledRunnable / dequeued task is used by the one worker it belongs to; arguments of entry points are the calling
     thread's own objects; user callbacks and tasks do not touch tulz internals;
  A4 intended-use contract: objects are constructed before they are shared (`PrePub`); the ThreadPool setters are called
     only while the pool has no live worker (`Quiescent`); observers are never invalidated (`excludedConds`);
  A5 a subscription handle's `ConcurrentInvoker::m_resource` is the `m_resource` of the router that owns the Subject the
     handle points into (checked syntactically by the translator in `ConcurrentSubjectRouter::subscribe`), and symbolic
     ownership (`anchor`) agrees with real ownership (`World.anchorOf`).
-/
namespace Tulz
open Tulz.Drf Tulz.Model Tulz.Generated

/-- **C15, generic part.**  A well-formed execution that follows a discipline has no data race — for all traces,
thread counts, lengths. -/
theorem C15_discipline_sound {L M : Type} [DecidableEq M] (tr : Trace L M) (hwf : WF tr) (d : L → Rule M)
    (hfollows : Follows tr d) : ¬ Race tr :=
  discipline_sound tr hwf d hfollows

/-- the rows of the regenerated table that do NOT follow the discipline (empty on a healthy tree; printed by the check) -/
def C15_offending : List AccessTable.E :=
  AccessTable.entries.filter (fun e => !followsDiscipline discipline entryRole excludedConds e)

/-- **C15, generated part.**  Every row of the access table regenerated from the C++ sources follows the discipline. -/
theorem C15_table_follows :
    AccessTable.entries.all (followsDiscipline discipline entryRole excludedConds) = true := by
  decide +kernel

/-- **C15, combined.**  An execution over concrete `(object, member)` locations whose access events are all instances of
rows of the regenerated table (in some world of role and ownership assignments) has no data race. -/
theorem C15_no_race (w : World Field) (tr : Trace (CLoc Field) (CLoc Field)) (hwf : WF tr)
    (hinst : ∀ k t x wr, tr[k]? = some ⟨t, .acc x wr⟩ →
      IsInstance discipline entryRole excludedConds AccessTable.entries w tr k t x wr) : ¬ Race tr :=
  discipline_sound tr hwf (concreteDiscipline discipline w)
    (instance_follows discipline entryRole excludedConds AccessTable.entries w tr
      (fun e he => List.all_eq_true.mp C15_table_follows e he) hinst)

/-! ## non-vacuity -/

section Examples

/-- a Resource object `7`: its mutex and its queue -/
def exM : CLoc Field := (7, .Resource_m_mutex)
def exX : CLoc Field := (7, .Resource_m_queue)

/-- two threads touch the queue of Resource 7, each inside a critical section of its mutex -/
def goodTrace : Trace (CLoc Field) (CLoc Field) :=
  [⟨1, .acq exM .excl⟩, ⟨1, .wr exX⟩, ⟨1, .rel exM .excl⟩, ⟨2, .acq exM .excl⟩, ⟨2, .rd exX⟩, ⟨2, .rel exM .excl⟩]

/-- thread 0 starts thread 1, then both touch the same location without any lock -/
def racyTrace : Trace (CLoc Field) (CLoc Field) :=
  [⟨0, .fork 1⟩, ⟨0, .wr exX⟩, ⟨1, .rd exX⟩]

/- Facts about the two example traces are read off index by index: `rcases k` enumerates the indices, and `cases h` on
`trace[k]? = some ⟨t, ev⟩` decides each of them by unification (past the end the left side is `none`). -/

theorem goodTrace_wf : WF goodTrace where
  acqExcl k t m h := by rcases k with _|_|_|_|_|_|k <;> cases h <;> exact ⟨rfl, fun _ => rfl⟩
  acqShared k t m h := by rcases k with _|_|_|_|_|_|k <;> cases h
  relExcl k t m h := by rcases k with _|_|_|_|_|_|k <;> cases h <;> rfl
  relShared k t m h := by rcases k with _|_|_|_|_|_|k <;> cases h
  forked f t u h := by rcases f with _|_|_|_|_|_|f <;> cases h
  joined n t u h := by rcases n with _|_|_|_|_|_|n <;> cases h

/-- the discipline of the example: the queue is guarded by the mutex -/
def exD : CLoc Field → Rule (CLoc Field) := fun _ => .guardedBy exM

/-- every access of `goodTrace` is to the queue, by the thread that owns the mutex at that point -/
theorem goodTrace_acc {k t : Nat} {x : CLoc Field} {wr : Bool} (h : goodTrace[k]? = some ⟨t, .acc x wr⟩) :
    x = exX ∧ exclOwner goodTrace exM k = some t := by
  rcases k with _|_|_|_|_|_|k <;> cases h <;> exact ⟨rfl, rfl⟩

theorem goodTrace_follows : Follows goodTrace exD :=
  fun _ _ _ _ h => Or.inr (goodTrace_acc h).2

/-- **a race-free execution that follows a discipline** (the hypotheses of `C15_discipline_sound` are satisfiable) -/
example : WF goodTrace ∧ Follows goodTrace exD ∧ ¬ Race goodTrace :=
  ⟨goodTrace_wf, goodTrace_follows, C15_discipline_sound goodTrace goodTrace_wf exD goodTrace_follows⟩

theorem racyTrace_wf : WF racyTrace where
  acqExcl k t m h := by rcases k with _|_|_|k <;> cases h
  acqShared k t m h := by rcases k with _|_|_|k <;> cases h
  relExcl k t m h := by rcases k with _|_|_|k <;> cases h
  relShared k t m h := by rcases k with _|_|_|k <;> cases h
  forked f t u h k e hk := by
    rcases f with _|_|_|f <;> cases h
    rcases k with _|_|_|k <;> cases hk
    exact Nat.zero_lt_two
  joined n t u h := by rcases n with _|_|_|n <;> cases h

/-- in the racy trace every happens-before edge starts at the fork (index 0) -/
theorem racyTrace_hb {i j : Nat} (h : HB racyTrace i j) : i = 0 := by
  induction h with
  | @po i j _ _ _ hij h1 h2 =>
    rcases i with _|_|_|i <;> cases h1
    · rfl
    · rcases j with _|_|_|j <;> cases h2 <;> omega
    · rcases j with _|_|_|j <;> cases h2 <;> omega
  | @sw i _ _ _ _ _ _ _ h1 _ _ => rcases i with _|_|_|i <;> cases h1
  | @fork i _ _ _ _ _ h1 _ =>
    rcases i with _|_|_|i <;> cases h1
    rfl
  | @join _ j _ _ _ _ _ h2 => rcases j with _|_|_|j <;> cases h2
  | trans _ _ ih1 _ => exact ih1

theorem racyTrace_race : Race racyTrace :=
  ⟨1, 2, 0, 1, exX, true, false, Nat.lt_add_one 1, rfl, rfl, Nat.zero_ne_one, Or.inl rfl,
    fun h => Nat.one_ne_zero (racyTrace_hb h)⟩

/-- **a racy two-thread execution**: it is well-formed, it has a race, and therefore it follows NO discipline -/
example : WF racyTrace ∧ Race racyTrace ∧ ∀ d : CLoc Field → Rule (CLoc Field), ¬ Follows racyTrace d :=
  ⟨racyTrace_wf, racyTrace_race, fun d hf => C15_discipline_sound racyTrace racyTrace_wf d hf racyTrace_race⟩

/-- the regenerated table has a row "write of `Resource::m_queue` of `this` under `this->m_mutex`" and the matching read row
(whatever their positions in the table are) -/
theorem table_has_queue_rows : ∀ w : Bool, ∃ e ∈ AccessTable.entries,
    e.loc = .Resource_m_queue ∧ e.obj = .self ∧ e.write = w ∧ e.decl = .plain ∧ e.conds = [] ∧ e.init = false ∧
    e.guards = [⟨.self, .Resource_m_mutex, .excl⟩] ∧ e.spawned = false ∧ entryRole e.root = .any := by
  decide +kernel

/-- the world of the example: every member is its own anchor, threads play no role -/
def exW : World Field := { thr := fun _ _ => 0, anchorOf := fun x => x }

/-- **the hypotheses of `C15_no_race` are satisfiable**: both accesses of `goodTrace` are instances of rows of the
regenerated table (the critical sections of `Resource::lock…` on the Resource object `7`) -/
theorem goodTrace_instances (k t : Nat) (x : CLoc Field) (wr : Bool) (h : goodTrace[k]? = some ⟨t, .acc x wr⟩) :
    IsInstance discipline entryRole excludedConds AccessTable.entries exW goodTrace k t x wr := by
  obtain ⟨e, hmem, hloc, hobj, hw, hdecl, hconds, hinit, hguards, hsp, hrole⟩ := table_has_queue_rows wr
  obtain ⟨rfl, hown⟩ := goodTrace_acc h
  refine ⟨e, fun _ => 7, hmem, hloc, rfl, fun hh => hw.trans hh, hdecl, ?_, ?_, ?_, ?_, ?_, ?_⟩
  · intro c hc; rw [hconds] at hc; cases hc
  · intro hi; cases hinit.symm.trans hi
  · intro g hg
    rw [hguards] at hg
    cases List.mem_singleton.mp hg
    exact hown
  · intro f o ha
    rw [hloc, hobj] at ha
    cases ha
    rfl
  · intro hr
    rw [Entry.role, hsp, if_neg Bool.false_ne_true, hrole] at hr
    cases hr
  · intro ws hd
    cases hd

/-- `C15_no_race` applied to it -/
example : ¬ Race goodTrace := C15_no_race exW goodTrace goodTrace_wf goodTrace_instances

/-- the table check can fail: a plain `bool` flag where the discipline demands an atomic (the unrepaired
`ThreadPool::m_isRunning`, finding F6/F7) does not follow; the same row with an atomic declaration does -/
example :
    followsDiscipline discipline entryRole excludedConds
      { root := .ThreadPool_stop, spawned := false, loc := .ThreadPool_m_isRunning, obj := .self, write := true, decl := .plain,
        guards := [], init := false, conds := [], unknown := false, site := "" } = false ∧
    followsDiscipline discipline entryRole excludedConds
      { root := .ThreadPool_stop, spawned := false, loc := .ThreadPool_m_isRunning, obj := .self, write := true, decl := .atomicTy,
        guards := [], init := false, conds := [], unknown := false, site := "" } = true ∧
    -- a write of router state under a READ lock does not follow, under a WRITE lock it does
    followsDiscipline discipline entryRole excludedConds
      { root := .ConcurrentSubjectRouter_shrink, spawned := false, loc := .Node_m_children,
        obj := .field (.field .self .ConcurrentSubjectRouter_m_router) .SubjectRouter_m_rootNode, write := true, decl := .plain,
        guards := [⟨.self, .ConcurrentSubjectRouter_m_resource, .shared⟩], init := false, conds := [], unknown := false, site := "" } = false ∧
    followsDiscipline discipline entryRole excludedConds
      { root := .ConcurrentSubjectRouter_shrink, spawned := false, loc := .Node_m_children,
        obj := .field (.field .self .ConcurrentSubjectRouter_m_router) .SubjectRouter_m_rootNode, write := true, decl := .plain,
        guards := [⟨.self, .ConcurrentSubjectRouter_m_resource, .excl⟩], init := false, conds := [], unknown := false, site := "" } = true := by
  decide

end Examples

end Tulz
