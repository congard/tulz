import Tulz.Proofs.ArrayStore
/-
  C14 — tulz::Array has value semantics: contents, copies and element lifetimes are exact.

  Model: Tulz/Model/Array.lean (members of Array<T> on slot lists), ArrayStore.lean (several
  variables + heap of block identities), MemExtra.lean.  `cls` = std::is_class_v<T>.
  An element of the specification is `Option α`: `none` is the indeterminate value of a never
  written element of a non-class type; for class types every element is `some` (C14_class_plain),
  i.e. the specification is a plain `List α`.

  All statements hold for every length (0 included), both values of `cls`, every element type
  `α` (relocatable bitwise), any number of variables and every valid finite history.
-/
namespace Tulz
set_option linter.unusedSectionVars false
open AStore
variable {α : Type} [Inhabited α]

/-- a construction path succeeds and yields exactly the elements `l` -/
def Arr.Yields (r : AM (Arr α)) (l : List (Option α)) : Prop :=
  ∃ a, r = .ok a ∧ a.contents = l ∧ a.size = l.length ∧ a.data = ofSpec l

theorem Arr.yields_of_eq {r : AM (Arr α)} {l : List (Option α)} (h : r = .ok ⟨ofSpec l⟩) : Arr.Yields r l :=
  ⟨_, h, by simp, by simp, rfl⟩

/-- every construction path holds exactly the given number of elements with exactly the given values:
    pointer+length (the first `n` of the source), initializer list, size (default-constructed objects
    for a class type, indeterminate elements otherwise), size+value, default (empty) -/
theorem C14_ctor_contents (cls : Bool) :
    (∀ (src : List α) (n : Nat), n ≤ src.length → Arr.Yields (Arr.ofPtr cls src n) ((src.take n).map some)) ∧
    (∀ vs : List α, Arr.Yields (Arr.ofInit vs) (vs.map some)) ∧
    (∀ n : Nat, Arr.Yields (Arr.ofSize cls n : AM (Arr α)) (List.replicate n (if cls then some default else none))) ∧
    (∀ (n : Nat) (v : α), Arr.Yields (Arr.ofFill n v) (List.replicate n (some v))) ∧
    (Arr.empty : Arr α).contents = [] ∧ (Arr.empty : Arr α).size = 0 :=
  ⟨fun src n h => Arr.yields_of_eq (Arr.ofPtr_spec cls src n h),
   fun vs => Arr.yields_of_eq (Arr.ofInit_spec vs),
   fun n => Arr.yields_of_eq (Arr.ofSize_spec cls n),
   fun n v => Arr.yields_of_eq (Arr.ofFill_spec n v),
   rfl, rfl⟩

example : Arr.Yields (Arr.ofPtr true [5, 6, 7] 2) [some 5, some 6] :=
  (C14_ctor_contents true).1 [5, 6, 7] 2 (by decide)
example : Arr.Yields (Arr.ofSize false 2 : AM (Arr Nat)) [none, none] := (C14_ctor_contents false).2.2.1 2
example : Arr.Yields (Arr.ofPtr true ([] : List Nat) 0) [] := (C14_ctor_contents true).1 [] 0 (by decide)

/-- `resize` keeps the first `min old new` elements and fills the rest (default objects / indeterminate,
    the given value, or the value of the own element `i` the caller referred to), for a well-formed array -/
theorem C14_resize (cls : Bool) (l : List (Option α)) (n : Nat) (hf : cls = true → Spec.full l) :
    Arr.Yields (Arr.resize cls ⟨ofSpec l⟩ n)
      (l.take (min l.length n) ++ List.replicate (n - l.length) (if cls then some default else none)) ∧
    (∀ v : α, Arr.Yields (Arr.resizeFill cls ⟨ofSpec l⟩ n v)
      (l.take (min l.length n) ++ List.replicate (n - l.length) (some v))) ∧
    (∀ (i : Nat) (v : α), l[i]? = some (some v) → Arr.Yields (Arr.resizeSelf cls ⟨ofSpec l⟩ n i)
      (l.take (min l.length n) ++ List.replicate (n - l.length) (some v))) := by
  rw [Nat.min_comm, ← List.take_eq_take_min]
  exact ⟨Arr.yields_of_eq (Arr.resize_spec cls l n hf),
         fun v => Arr.yields_of_eq (Arr.resizeFill_spec cls l n v hf),
         fun i v h => Arr.yields_of_eq (Arr.resizeSelf_spec cls l n i v h hf)⟩

example : Arr.Yields (Arr.resize true ⟨ofSpec [some 1, some 2, some 3]⟩ 5) [some 1, some 2, some 3, some 0, some 0] :=
  (C14_resize true [some 1, some 2, some 3] 5 fun _ => full_map_some [1, 2, 3]).1
example : Arr.Yields (Arr.resizeSelf false ⟨ofSpec [some 1, none, some 3]⟩ 1 2) [some 1] :=
  (C14_resize false [some 1, none, some 3] 1 (by intro h; cases h)).2.2 2 3 rfl

/-- one operation: under the store invariant and the operation's precondition the model does not fail
    (no out-of-bounds access, no destructor on a non-object, no construction over a live object, no leak,
    no bad free), keeps the invariant, returns what the list specification returns and ends in the state
    the list specification ends in -/
theorem C14_op_refines (cls : Bool) (s : AStore α) (op : AOp α) (hinv : Inv cls s) (hv : Spec.valid s.abs op) :
    ∃ s', AStore.step cls s op = .ok (s', (Spec.step cls s.abs op).2) ∧ Inv cls s' ∧
          s'.abs = (Spec.step cls s.abs op).1 :=
  step_refines cls s op hinv hv

theorem abs_init (nv : Nat) : (AStore.init nv : AStore α).abs = List.replicate nv none := by
  simp [AStore.abs, AStore.init]

/-- every valid history of construct / copy / move / assign / swap / resize / set / get / iterate / drop over
    any number of variables: the model never fails, returns exactly the outputs of the list specification,
    ends in exactly its state, and the values held by live elements are exactly the specification's contents -/
theorem C14_history (cls : Bool) (nv : Nat) (ops : List (AOp α))
    (hvalid : Spec.validFrom cls (List.replicate nv none) ops) :
    ∃ s', AStore.run cls (AStore.init nv) ops = .ok (s', (Spec.run cls (List.replicate nv none) ops).2) ∧
          s'.abs = (Spec.run cls (List.replicate nv none) ops).1 ∧
          s'.liveVals = Spec.allItems (Spec.run cls (List.replicate nv none) ops).1 ∧
          s'.liveVals.Perm (Spec.allItems (Spec.run cls (List.replicate nv none) ops).1) ∧
          Inv cls s' := by
  have h0 := abs_init (α := α) nv
  obtain ⟨s', h1, h2, h3⟩ := run_refines cls ops (AStore.init nv) (inv_init cls nv) (by rw [h0]; exact hvalid)
  rw [h0] at h1 h3
  have hl : s'.liveVals = Spec.allItems (Spec.run cls (List.replicate nv none) ops).1 := by
    rw [liveVals_abs, h3]
  exact ⟨s', h1, h3, hl, by rw [hl], h2⟩

/-- for a class type the specification is a plain `List α`: every element of every variable in every
    reachable state is a live object -/
theorem C14_class_plain (s : AStore α) (hinv : Inv true s) (i : Nat) (v : AVar α) (hv : s.vars.find i = some v) :
    v.arr.contents = (Spec.plain v.arr.contents).map some ∧
    v.arr.data = (Spec.plain v.arr.contents).map .live :=
  class_plain hinv hv

/-- copies are deep and independent: the new variable holds the same values in a fresh block of its own;
    whatever valid operations are applied afterwards to the other variables (including the source) leave the
    copy's contents untouched, and vice versa; and in no reachable state do two variables share a block -/
theorem C14_copy_independent (cls : Bool) (s : AStore α) (hinv : Inv cls s) (dst src : Nat)
    (l : List (Option α)) (hfree : s.abs.isFree dst = true) (hsrc : s.abs.find src = some l)
    (ops : List (AOp α)) (hvalid : Spec.validFrom cls (Spec.step cls s.abs (.copy dst src)).1 ops) :
    ∃ s1 s2 outs, AStore.step cls s (.copy dst src) = .ok (s1, .unit) ∧ AStore.run cls s1 ops = .ok (s2, outs) ∧
      s1.abs.find dst = some l ∧ s1.abs.find src = some l ∧
      (∃ v w, s1.vars.find src = some v ∧ s1.vars.find dst = some w ∧ w.blk = some s.heap.next ∧
              w.blk ≠ v.blk ∧ w.arr.data = v.arr.data) ∧
      ((∀ op ∈ ops, dst ∉ op.mentions) → s2.abs.find dst = some l) ∧
      ((∀ op ∈ ops, src ∉ op.mentions) → s2.abs.find src = some l) ∧
      (∀ i j v w b, i ≠ j → s2.vars.find i = some v → s2.vars.find j = some w → v.blk = some b → w.blk ≠ some b) := by
  obtain ⟨p, hfv, _⟩ := find_abs hinv hsrc
  have hfree' := free_of_abs hfree
  have hne := Slots.ne_of_find_of_isFree hfv hfree'
  obtain ⟨s1, hs1, hinv1, habs1⟩ := step_refines cls s (.copy dst src) hinv ⟨hfree, l, hsrc⟩
  have hspec : Spec.step cls s.abs (.copy dst src) = (s.abs.put dst l, .unit) := by
    unfold Spec.step; simp only [hsrc]
  rw [← habs1] at hvalid
  rw [hspec] at hs1
  obtain ⟨s2, hs2, hinv2, habs2⟩ := run_refines cls ops s1 hinv1 hvalid
  -- the new state explicitly: `dst` holds the same storage under the block id just handed out
  obtain rfl : s.construct dst ⟨ofSpec l⟩ = s1 := by
    rw [step_copy hinv hfree' hfv] at hs1; exact (Prod.mk.inj (Except.ok.inj hs1)).1
  have hw1 : (s.construct dst ⟨ofSpec l⟩).vars.find dst = some ⟨some s.heap.next, ⟨ofSpec l⟩⟩ :=
    Slots.find_put_self _ _ _ (Slots.isFree_lt hfree')
  have hv1 : (s.construct dst ⟨ofSpec l⟩).vars.find src = some ⟨p, ⟨ofSpec l⟩⟩ :=
    (Slots.find_put_ne _ _ _ _ hne).trans hfv
  have hd1 : (s.construct dst ⟨ofSpec l⟩).abs.find dst = some l := by rw [abs_find, hw1, Option.map_some, contents_ofSpec]
  have hs1src : (s.construct dst ⟨ofSpec l⟩).abs.find src = some l := by rw [abs_find, hv1, Option.map_some, contents_ofSpec]
  refine ⟨_, s2, _, hs1, hs2, hd1, hs1src, ⟨_, _, hv1, hw1, rfl, ?_, rfl⟩, ?_, ?_, ?_⟩
  · exact fun hb => no_alias hinv1 hne.symm hw1 hv1 rfl hb.symm
  · intro hno; rw [habs2, Spec.run_frame cls ops dst _ hno]; exact hd1
  · intro hno; rw [habs2, Spec.run_frame cls ops src _ hno]; exact hs1src
  · exact fun i j v' w' b hij hi hj hb => no_alias hinv2 hij hi hj hb

/-- a shallow copy (two variables sharing one block) is refuted: destroying both owners frees the block twice -/
theorem C14_shallow_copy_refuted (cls : Bool) (s : AStore α) (hinv : Inv cls s) (dst src : Nat) (v : AVar α) (b : Nat)
    (hfree : s.vars.isFree dst = true) (hfv : s.vars.find src = some v) (hb : v.blk = some b) :
    (AStore.step cls (shallowCopy s dst v) (.drop src) >>= fun r => AStore.step cls r.1 (.drop dst))
      = .error .badFree :=
  shallow_double_free hinv hfree hfv hb

/-- moves transfer the contents: the destination gets the very same block and storage (nothing is copied,
    nothing allocated or freed), a move-constructed-from source is left empty with a null pointer, and move
    assignment exchanges the two objects -/
theorem C14_move_transfers (cls : Bool) (s : AStore α) (dst src : Nat) (v : AVar α)
    (hfv : s.vars.find src = some v) :
    (s.vars.isFree dst = true →
      ∃ s', AStore.step cls s (.mctor dst src) = .ok (s', .unit) ∧ s'.vars.find dst = some v ∧
            s'.vars.find src = some ⟨none, Arr.empty⟩ ∧ s'.heap = s.heap) ∧
    (∀ d, dst ≠ src → s.vars.find dst = some d →
      ∃ s', AStore.step cls s (.massign dst src) = .ok (s', .unit) ∧ s'.vars.find dst = some v ∧
            s'.vars.find src = some d ∧ s'.heap = s.heap) := by
  have hsrc : src < s.vars.length := Slots.find_lt hfv
  constructor
  · intro hfree
    have hne := Slots.ne_of_find_of_isFree hfv hfree
    have hdst : dst < s.vars.length := Slots.isFree_lt hfree
    refine ⟨_, step_mctor cls s hfree hfv, ?_, ?_, rfl⟩
    · exact Slots.find_put_self _ _ _ (by simpa using hdst)
    · rw [Slots.find_put_ne _ _ _ _ hne]; exact Slots.find_put_self _ _ _ hsrc
  · intro d hne hfd
    have hdst : dst < s.vars.length := Slots.find_lt hfd
    refine ⟨_, step_massign cls s hne hfd hfv, ?_, ?_, rfl⟩
    · rw [Slots.find_put_ne _ _ _ _ hne]; exact Slots.find_put_self _ _ _ hdst
    · exact Slots.find_put_self _ _ _ (by simpa using hsrc)

/-- lifetimes: after a valid history at whose end every variable has been destroyed, no element value is
    alive, no block is still allocated, and the log of `free` calls is a permutation of the ids of all blocks
    ever allocated — each block is freed exactly once.  (That no destructor ran on a non-object, nothing was
    constructed over a live object and no block was given back with a live object inside is part of
    "the run does not fail": these are errors of the model.) -/
theorem C14_lifetime (cls : Bool) (nv : Nat) (ops : List (AOp α))
    (hvalid : Spec.validFrom cls (List.replicate nv none) ops)
    (hall : ∀ i, (Spec.run cls (List.replicate nv none) ops).1.find i = none) :
    ∃ s' outs, AStore.run cls (AStore.init nv) ops = .ok (s', outs) ∧
      s'.liveVals = [] ∧ s'.heap.owned = [] ∧ s'.heap.freed.Perm (List.range s'.heap.next) := by
  obtain ⟨s', h1, h2, _, _, hinv⟩ := C14_history cls nv ops hvalid
  have hnone : ∀ i, s'.vars.find i = none := by
    intro i
    have := hall i
    rw [← h2, abs_find] at this
    exact Option.map_eq_none_iff.mp this
  exact ⟨s', _, h1, all_dropped hinv hnone⟩

end Tulz

/-! ### non-vacuity: the hypotheses of the store-level theorems are satisfiable by concrete, non-trivial states -/
namespace Tulz
open AStore

/-- three variables of a class type: construct from a pointer, copy, write, grow, move-construct,
    copy-assign, self-referential resize, swap, read, iterate, destroy everything -/
def exOps : List (AOp Nat) :=
  [.ptr 0 [5, 6, 7] 2, .copy 1 0, .set 0 0 9, .resize 1 3, .mctor 2 0, .cassign 0 1,
   .resizeSelf 0 5 1, .swap 0 2, .get 2 4, .iter 1, .drop 0, .drop 1, .drop 2]

-- one witness per operation, in the shape of its arm of `Spec.valid`: `rfl` looks a variable up, `_` is the list found
theorem exOps_valid : Spec.validFrom true (List.replicate 3 none) exOps :=
  ⟨⟨rfl, by decide⟩, ⟨rfl, _, rfl⟩, ⟨_, rfl, by decide⟩, ⟨_, rfl⟩, ⟨rfl, _, rfl⟩, ⟨⟨_, rfl⟩, _, rfl⟩,
   ⟨_, _, rfl, rfl⟩, ⟨⟨_, rfl⟩, _, rfl⟩, ⟨_, _, rfl, rfl⟩, ⟨_, rfl, full_map_some [5, 6, 0]⟩,
   ⟨_, rfl⟩, ⟨_, rfl⟩, ⟨_, rfl⟩, trivial⟩

theorem exOps_final : (Spec.run true (List.replicate 3 none) exOps).1 = [none, none, none] := by
  decide

example : ∃ s', AStore.run true (AStore.init 3) exOps = .ok (s', (Spec.run true (List.replicate 3 none) exOps).2) ∧ Inv true s' := by
  obtain ⟨s', h, _, _, _, hi⟩ := C14_history true 3 exOps exOps_valid
  exact ⟨s', h, hi⟩

example : ∃ s' outs, AStore.run true (AStore.init 3) exOps = .ok (s', outs) ∧ s'.liveVals = [] ∧
    s'.heap.owned = [] ∧ s'.heap.freed.Perm (List.range s'.heap.next) :=
  C14_lifetime true 3 exOps exOps_valid (by
    intro i; rw [exOps_final]
    match i with
    | 0 | 1 | 2 => rfl
    | k + 3 => rfl)

/-- a non-class history with indeterminate elements -/
example : Spec.validFrom false (List.replicate 2 none)
    ([.size 0 2, .set 0 1 4, .resize 0 4, .copy 1 0, .get 1 1, .resizeV 1 1 8, .drop 0, .drop 1] : List (AOp Nat)) :=
  ⟨rfl, ⟨_, rfl, by decide⟩, ⟨_, rfl⟩, ⟨rfl, _, rfl⟩, ⟨_, _, rfl, rfl⟩, ⟨_, rfl⟩, ⟨_, rfl⟩, ⟨_, rfl⟩, trivial⟩

/-- a reachable state with one array `{5, 6}` in block 0 and two free variable slots -/
def exS : AStore Nat := ⟨[some ⟨some 0, ⟨[.live 5, .live 6]⟩⟩, none, none], ⟨1, [0], []⟩⟩

theorem exS_reached : AStore.run true (AStore.init 3) [.ptr 0 [5, 6, 7] 2] = .ok (exS, [.unit]) := by rfl

theorem exS_inv : Inv true exS := by
  obtain ⟨s', h, _, _, _, hi⟩ := C14_history true 3 [.ptr 0 [5, 6, 7] 2]
    ⟨⟨rfl, by decide⟩, trivial⟩
  rw [exS_reached] at h
  cases h; exact hi

example : Spec.valid exS.abs (.resize 0 5 : AOp Nat) ∧ Spec.valid exS.abs (.copy 1 0 : AOp Nat) :=
  ⟨⟨_, rfl⟩, rfl, _, rfl⟩

-- C14_op_refines, C14_class_plain
example := C14_op_refines true exS (.resizeSelf 0 4 1) exS_inv ⟨[some 5, some 6], 6, rfl, rfl⟩
example := C14_class_plain exS exS_inv 0 _ rfl

-- C14_copy_independent: the source is rewritten, shrunk to nothing and destroyed; the copy is not named
example := C14_copy_independent true exS exS_inv 1 0 [some 5, some 6] rfl rfl
  [.set 0 0 9, .resize 0 0, .drop 0]
  ⟨⟨_, rfl, by decide⟩, ⟨_, rfl⟩, ⟨_, rfl⟩, trivial⟩

-- C14_shallow_copy_refuted, C14_move_transfers
example := C14_shallow_copy_refuted true exS exS_inv 1 0 _ 0 rfl rfl rfl
example := (C14_move_transfers true exS 1 0 _ rfl).1 rfl

end Tulz
