import Tulz.Proofs.LocaleCheck
/-!
# C19 — `LocaleInfo::get` is total, memory-safe and consistent with its tables

`get` is the byte-level model of the REPAIRED `LocaleInfo::get` (finding F9, repairs/F9.patch) over the tables that
`tools/translators/locale_tables.py` regenerates from `src/LocaleInfo.cpp` on every check.  `spec` is the plain
statement of the property (Model/Locale.lean, with the interpretive choices).  The generic theorems live in
Proofs/Locale.lean and hold for ANY two tables satisfying `LangFacts` / `CountryFacts`; here they are instantiated
with the facts proved by kernel evaluation (`decide +kernel`) of the checkers of Proofs/LocaleCheck.lean over the
regenerated tables, so an edit of a table entry that breaks a fact (a key with `_`, a key of 64 bytes, a code that is
also a name, …) breaks this file.
-/
namespace Tulz
open Tulz.Locale

/-- **Table facts**, re-proved over the regenerated tables on every run: every key is shorter than 64 bytes and
contains neither `_` nor NUL; no language key contains `.`; language codes and language names are disjoint; country
codes are unique, country names are unique, and no country code is a country name; the fallback literals
(`en`/`English`, `GB`/`United Kingdom`) are table entries. -/
theorem C19_table_facts : LangFacts languageTable ∧ CountryFacts countryTable :=
  ⟨langFacts_of_check _ languageTableEnc languageSplitLen (by decide +kernel),
   countryFacts_of_check _ countryTableEnc (by decide +kernel)⟩

/-- **Memory safety for every string of every length**: the model never takes an error branch — no `memcpy` with a
negative or over-long length, no read past the NUL of the argument, no `strcmp` on an unterminated buffer, no
uninitialised field in the result.  (Holds for arbitrary byte lists, even with NUL bytes inside, and needs no table fact.) -/
theorem C19_safe (s : Bytes) : ∃ i, get s = .ok i := getT_safe languageTable countryTable s

/-- **The repaired code computes the specification** for every C string (a byte list without NUL). -/
theorem C19_get_eq_spec (s : Bytes) (h0 : 0 ∉ s) : get s = .ok (spec s) :=
  getT_eq_specT languageTable countryTable C19_table_facts.1.short C19_table_facts.1.disjoint C19_table_facts.2.short s h0

/-- `""` or `.charset` -/
def IsSuffix (suffix : Bytes) : Prop := suffix = [] ∨ ∃ cs, suffix = dot :: cs

/-- **Known language CODE × known country (by code or by name, without `.`), with or without `.charset`**:
that code, all table names carrying it in table order (the entry's own name among them), that country, no error. -/
theorem C19_known_code (e : Bytes × Bytes) (he : e ∈ languageTable) (c : Bytes × Bytes) (hc : c ∈ countryTable)
    (k : Bytes) (hk : k = c.1 ∨ k = c.2) (hkd : dot ∉ k) (suffix : Bytes) (hs : IsSuffix suffix) :
    spec (e.1 ++ underscore :: k ++ suffix) =
      { languages := namesOf languageTable e.1, languageCode := e.1, country := c.2, countryCode := c.1, error := false }
    ∧ e.2 ∈ namesOf languageTable e.1 :=
  ⟨specT_known_code _ _ C19_table_facts.1 C19_table_facts.2 e he c hc k hk hkd suffix hs, mem_namesOf _ e he⟩

/-- **Known language NAME × known country**: the code of the FIRST table entry `e'` with that name, that name, that country.
(For a name that occurs once, `e' = e`; `Norwegian` and `Ndebele` occur under several codes.) -/
theorem C19_known_name (e : Bytes × Bytes) (he : e ∈ languageTable) (c : Bytes × Bytes) (hc : c ∈ countryTable)
    (k : Bytes) (hk : k = c.1 ∨ k = c.2) (hkd : dot ∉ k) (suffix : Bytes) (hs : IsSuffix suffix) :
    ∃ e' ∈ languageTable, e'.2 = e.2 ∧ languageTable.find? (fun x => x.2 == e.2) = some e' ∧
      spec (e.2 ++ underscore :: k ++ suffix) =
        { languages := [e.2], languageCode := e'.1, country := c.2, countryCode := c.1, error := false } :=
  specT_known_name _ _ C19_table_facts.1 C19_table_facts.2 e he c hc k hk hkd suffix hs

/-- the same two statements about the model of the code itself (keys and charset without NUL) -/
theorem C19_known (e : Bytes × Bytes) (he : e ∈ languageTable) (c : Bytes × Bytes) (hc : c ∈ countryTable)
    (k : Bytes) (hk : k = c.1 ∨ k = c.2) (hkd : dot ∉ k) (suffix : Bytes) (hs : IsSuffix suffix) (h0 : 0 ∉ suffix) :
    get (e.1 ++ underscore :: k ++ suffix) =
      .ok { languages := namesOf languageTable e.1, languageCode := e.1, country := c.2, countryCode := c.1, error := false }
    ∧ ∃ e' ∈ languageTable, e'.2 = e.2 ∧
      get (e.2 ++ underscore :: k ++ suffix) =
        .ok { languages := [e.2], languageCode := e'.1, country := c.2, countryCode := c.1, error := false } := by
  have hL := C19_table_facts.1
  have hC := C19_table_facts.2
  have hk0 : 0 ∉ k := by rcases hk with rfl | rfl; exact (hC.noNul c hc).1; exact (hC.noNul c hc).2
  have hu : (0 : Nat) ≠ underscore := by decide
  constructor
  · rw [C19_get_eq_spec _ (by simp [(hL.noNul e he).1, hk0, h0, hu]), (C19_known_code e he c hc k hk hkd suffix hs).1]
  · obtain ⟨e', hm, hn, _, h⟩ := C19_known_name e he c hc k hk hkd suffix hs
    exact ⟨e', hm, hn, by rw [C19_get_eq_spec _ (by simp [(hL.noNul e he).2, hk0, h0, hu]), h]⟩

/-- **Every other string** — no `_`, a `.` before the `_`, an unknown or empty part, an unknown language with a known
country, an over-long part — gets the English / United Kingdom fallback with `error` set. -/
theorem C19_other (s : Bytes) (h : ¬ wellShaped languageTable countryTable s) : spec s = fallback :=
  specT_other _ _ s h

/-- the two cases partition all strings -/
theorem C19_error_iff (s : Bytes) : (spec s).error = false ↔ wellShaped languageTable countryTable s :=
  specT_error_iff _ _ C19_table_facts.1 C19_table_facts.2 s

/-- **Every returned string is a component of a table entry** (by content): each returned name is paired with the
returned code in the language table, at least one name is returned, and (countryCode, country) is an entry of the
country table — for every string, fallback included. -/
theorem C19_pointers (s : Bytes) : inTables languageTable countryTable (spec s) :=
  specT_inTables _ _ C19_table_facts.1.hasFallback C19_table_facts.2.hasFallback s

/-! ## non-vacuity and finding F9 stated on the model of the code as found -/

-- "nb_NO.UTF-8": code nb, its three names in table order, Norway
example : get [110, 98, 95, 78, 79, 46, 85, 84, 70, 45, 56] =
    .ok { languages := [[66, 111, 107, 109, 195, 165, 108], [78, 111, 114, 119, 101, 103, 105, 97, 110],
                        [78, 111, 114, 119, 101, 103, 105, 97, 110, 32, 66, 111, 107, 109, 195, 165, 108]],
          languageCode := [110, 98], country := [78, 111, 114, 119, 97, 121], countryCode := [78, 79], error := false } := by
  decide +kernel

-- hypotheses of C19_known_code / C19_known_name are satisfiable: ("hu","Hungarian") × ("HU","Hungary"), key by name
example : (([104, 117], [72, 117, 110, 103, 97, 114, 105, 97, 110]) : Bytes × Bytes) ∈ languageTable ∧
    (([72, 85], [72, 117, 110, 103, 97, 114, 121]) : Bytes × Bytes) ∈ countryTable ∧ dot ∉ [72, 117, 110, 103, 97, 114, 121] ∧
    IsSuffix [] ∧ IsSuffix (dot :: [49, 50, 53, 50]) := by
  refine ⟨by decide +kernel, by decide +kernel, by decide, Or.inl rfl, Or.inr ⟨_, rfl⟩⟩

-- "Hungarian_Hungary.1252" through the theorem
example : spec ([72, 117, 110, 103, 97, 114, 105, 97, 110] ++ underscore :: [72, 117, 110, 103, 97, 114, 121] ++ dot :: [49, 50, 53, 50])
    = { languages := [[72, 117, 110, 103, 97, 114, 105, 97, 110]], languageCode := [104, 117],
        country := [72, 117, 110, 103, 97, 114, 121], countryCode := [72, 85], error := false } := by
  decide +kernel

-- C19_other is not vacuous: "zz_GB" (unknown language, known country) is not well-shaped and gets the fallback
theorem spec_zz_GB : spec [122, 122, 95, 71, 66] = fallback := by decide +kernel
example : spec [122, 122, 95, 71, 66] = fallback := spec_zz_GB
example : ¬ wellShaped languageTable countryTable [122, 122, 95, 71, 66] := by
  rw [← C19_error_iff, spec_zz_GB]; decide
-- and well-shaped strings exist: "en_GB", whose two keys are the fallback entries
example : wellShaped languageTable countryTable [101, 110, 95, 71, 66] :=
  ⟨[101, 110], [71, 66], [], rfl, ⟨_, C19_table_facts.1.hasFallback, Or.inl rfl⟩,
    ⟨_, C19_table_facts.2.hasFallback, Or.inl rfl⟩, by decide, Or.inl rfl⟩

-- F9 on the code AS FOUND (`getAsFound`): each of the three symptoms is an error branch of the model …
example : getAsFound (List.replicate 80 97 ++ [95, 71, 66]) = .error .bufferOverflow := by decide +kernel   -- "a"*80+"_GB"
example : getAsFound (List.replicate 64 97 ++ [95, 71, 66]) = .error .noTerminator := by decide +kernel     -- 64 bytes: no NUL left
example : getAsFound [101, 110, 46, 120, 95, 71, 66] = .error .negativeLength := by decide +kernel          -- "en.x_GB"
example : getAsFound [122, 122, 95, 71, 66] = .error .uninitialised := by decide +kernel                    -- "zz_GB"
-- … and the repaired code returns the fallback on all of them
example : get (List.replicate 80 97 ++ [95, 71, 66]) = .ok fallback := by decide +kernel
example : get [101, 110, 46, 120, 95, 71, 66] = .ok fallback := by decide +kernel
example : get [122, 122, 95, 71, 66] = .ok fallback := by rw [C19_get_eq_spec _ (by decide), spec_zz_GB]

end Tulz
