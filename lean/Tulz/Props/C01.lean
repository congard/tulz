import Tulz.Proofs.Rwp.Inv
/-
  C01 — rwp::Resource: a writer never shares the lock.

  `Rwp.State` is a transition system for any number of threads at the granularity of the `m_mutex` critical
  sections of Resource.cpp (`Rwp.Step`, seven step kinds; a parked thread may wake spuriously in `Step`).
  `Reach n s`: `s` is reachable with `n` threads by any interleaving.
-/
namespace Rwp

/-- **C01**: a thread holding the write lock is alone — nobody else holds a read or a write lock. -/
theorem C01_writer_alone (n : Nat) (s : State) (h : Reach n s) (i j : Nat) (hij : i ≠ j) (kj : Kind)
    (hi : holds s i .write) : ¬ holds s j kj := by
  intro hj
  cases (C01_exclusion n s h i j hij .write kj hi hj).1

/-- the executable step function run by the driver only takes steps of the relation the theorems quantify over -/
theorem xstep?_sound {x y : XState} {i : Nat} (h : xstep? x i = some y) : XStep x y := by
  unfold xstep? at h
  split at h
  · rename_i hi
    split at h
    · rename_i k rest hp
      split at h
      · rename_i hf
        cases h; exact XStep.callFast x i k rest hp hi hf
      · rename_i hf
        cases h; exact XStep.callSlow x i k rest hp hi (by simpa using hf)
    · cases h
  · rename_i k id hi
    split at h
    · rename_i hb; cases h; exact XStep.wakeOk x i k id hi hb
    · rename_i hb; cases h; exact XStep.wakeNo x i k id hi hb
  · rename_i k hi
    split at h
    · rename_i hc; cases h; exact XStep.unlockLast x i k hi hc
    · rename_i hc; cases h; exact XStep.unlockMore x i k hi hc
  · rename_i hi
    cases h; exact XStep.notify x i hi
  · cases h

/-- … and every step of the relation is the step function's answer for the thread that moves -/
theorem xstep?_complete {x y : XState} (h : XStep x y) : ∃ i, xstep? x i = some y := by
  cases h with
  | callFast i k rest hp hi hf => exact ⟨i, by simp [xstep?, hi, hp, hf]⟩
  | callSlow i k rest hp hi hf => exact ⟨i, by simp [xstep?, hi, hp, hf]⟩
  | wakeOk i k id hi h => exact ⟨i, by simp [xstep?, hi, h]⟩
  | wakeNo i k id hi h => exact ⟨i, by simp [xstep?, hi, h]⟩
  | unlockLast i k hi h => exact ⟨i, by simp [xstep?, hi, h]⟩
  | unlockMore i k hi h => exact ⟨i, by simp [xstep?, hi, h]⟩
  | notify i hi => exact ⟨i, by simp [xstep?, hi]⟩

/-! non-vacuity: a reachable 3-thread state in which two readers hold the lock at the same time -/
example : ∃ s, Reach 3 s ∧ holds s 0 .read ∧ holds s 1 .read := by
  refine ⟨_, Reach.step (Reach.step Reach.init (Step.callFast _ 0 .read rfl rfl)) (Step.callFast _ 1 .read rfl rfl), rfl, rfl⟩

end Rwp
