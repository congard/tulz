import Tulz.Proofs.RouterShrink
import Tulz.Proofs.RouterOrder
/-
C13 — SubjectRouter::shrink is invisible to delivery; exists / depth stay consistent.

Model: `Tulz/Model/Router.lean`.  Keys and patterns are written without the implicit root level (`[]` is the root
key, which is never removed).  `RLive t k`: some stored key at or below `k` has a subscription in the code's sense
(`hasSubscriptions`: an invalidated observer not yet removed by a notify still counts).  `RDead rm p t k`: nothing at
or below `k` has a subscription and the pattern visits (is at least as long as, and matches level by level) the parent
of every stored key at or below `k`.  Every statement holds for an arbitrary regex matcher `rm`.
-/
namespace Tulz
open Tulz.Router

variable {ρ : Type}

/-- shrink never changes which observers any later notify reaches -/
theorem C13_shrink_invisible {α : Type} (rm : ρ → String → Bool) (t : Node) (hwf : WF t) (p q : List (Level ρ)) (a : α) :
    (rNotify rm a q (rShrink rm p t)).log = (rNotify rm a q t).log :=
  shrink_invisible rm a p rootLevel t hwf q rootLevel

/-- what shrink removes, exactly: a stored key survives iff it is the root or not dead along the pattern -/
theorem C13_shrink_exact (rm : ρ → String → Bool) (t : Node) (hwf : WF t) (hroot : t.name = "") (p : List (Level ρ))
    (k : List String) :
    k ∈ rKeys (rShrink rm p t) ↔ k ∈ rKeys t ∧ (k = [] ∨ ¬ RDead rm p t k) := by
  simp only [rKeys, List.mem_map, rShrink, (shrunk_shrink rm p rootLevel t hwf).mem, rDead_iff rm p t hroot]
  constructor
  · rintro ⟨e, ⟨he, hor⟩, rfl⟩
    exact ⟨⟨e, he, rfl⟩, hor⟩
  · rintro ⟨⟨e, he, rfl⟩, hor⟩
    exact ⟨e, ⟨he, hor⟩, rfl⟩

/-- a key with a live subscription at or below it is never removed -/
theorem C13_keeps_live (rm : ρ → String → Bool) (t : Node) (hwf : WF t) (hroot : t.name = "") (p : List (Level ρ))
    (k : List String) (hk : k ∈ rKeys t) (hl : RLive t k) : k ∈ rKeys (rShrink rm p t) :=
  (C13_shrink_exact rm t hwf hroot p k).mpr ⟨hk, .inr (fun hd => hd.not_live hl)⟩

/-- only dead keys along the pattern are removed: a removed key has no live subscription at or below it and its
parent is a node the pattern visits -/
theorem C13_removes_only (rm : ρ → String → Bool) (t : Node) (hwf : WF t) (hroot : t.name = "") (p : List (Level ρ))
    (k : List String) (hk : k ∈ rKeys t) (hgone : k ∉ rKeys (rShrink rm p t)) :
    ¬ RLive t k ∧ prefixMatch rm p k.dropLast = true ∧ k ≠ [] := by
  have hdead : RDead rm p t k := by
    apply Classical.byContradiction
    intro hnd
    exact hgone ((C13_shrink_exact rm t hwf hroot p k).mpr ⟨hk, .inr hnd⟩)
  have hne : k ≠ [] := fun e => hgone ((C13_shrink_exact rm t hwf hroot p k).mpr ⟨hk, .inl e⟩)
  obtain ⟨e, he, hke⟩ := List.mem_map.mp hk
  have h2 := (hdead e he (by rw [hke]; exact List.prefix_refl _)).2
  rw [hke] at h2
  exact ⟨hdead.not_live, h2, hne⟩

/-- `depth()` is one more than the longest stored key -/
theorem C13_depth (t : Node) : (∀ k ∈ rKeys t, k.length + 1 ≤ rDepth t) ∧ ∃ k ∈ rKeys t, rDepth t = k.length + 1 := by
  induction t using Node.induct with
  | h name s cs ih =>
    rw [rDepth, depth_eq, children_mk]
    constructor
    · intro k hk
      rcases (mem_rKeys_iff _ k).mp hk with rfl | ⟨c, hc, k', hk', rfl⟩
      · simp
      · have h1 := (ih c hc).1 k' hk'
        have h2 : c.depth ≤ depthList cs := depthList_ge hc
        simp only [List.length_cons, rDepth] at h1 ⊢
        omega
    · by_cases hcs : cs = []
      · subst hcs
        exact ⟨[], nil_mem_rKeys _, by simp [depthList]⟩
      · obtain ⟨c, hc, e⟩ := depthList_attained hcs
        obtain ⟨k', hk', e'⟩ := (ih c hc).2
        refine ⟨c.name :: k', (mem_rKeys_iff _ _).mpr (.inr ⟨c, hc, k', hk', rfl⟩), ?_⟩
        simp only [List.length_cons, rDepth] at e' ⊢
        omega

/-- a full-depth wildcard shrink removes every dead branch: what is left (besides the root) has a live subscription at
or below it.  A visited node also erases its empty children, so a pattern two levels shorter than `depth()` suffices. -/
theorem C13_full_wildcard (rm : ρ → String → Bool) (t : Node) (hwf : WF t) (hroot : t.name = "") (p : List (Level ρ))
    (hw : ∀ l ∈ p, ∀ s, l.matches rm s = true) (hd : rDepth t ≤ p.length + 2)
    (k : List String) (hk : k ∈ rKeys (rShrink rm p t)) (hne : k ≠ []) : RLive t k := by
  obtain ⟨_, hor⟩ := (C13_shrink_exact rm t hwf hroot p k).mp hk
  rcases hor with e | hnd
  · exact absurd e hne
  · apply Classical.byContradiction
    intro hnl
    apply hnd
    intro e he hpre
    constructor
    · cases hs : hasSubs e.2 with
      | false => rfl
      | true => exact absurd ⟨e, he, hpre, hs⟩ hnl
    · apply prefixMatch_wild rm p hw
      have := (C13_depth t).1 e.1 (List.mem_map.mpr ⟨e, he, rfl⟩)
      simp only [List.length_dropLast]
      omega

/-- `exists(pattern)` is true exactly when some stored key (every prefix of a subscribed key is stored) matches the
pattern level by level -/
theorem C13_exists (rm : ρ → String → Bool) (t : Node) (hwf : WF t) (hroot : t.name = "") (p : List (Level ρ)) :
    rExists rm p t = true ↔ ∃ k ∈ rKeys t, matchKey rm p k = true :=
  (nodeExists_iff rm p rootLevel t hwf).trans (and_iff_right (root_matches rm hroot))

/-- stored keys are prefix closed -/
theorem C13_prefix_closed (t : Node) (k : List String) (hk : k ∈ rKeys t) : k.dropLast ∈ rKeys t := by
  induction t using Node.induct generalizing k with
  | h name s cs ih =>
    rcases (mem_rKeys_iff _ k).mp hk with rfl | ⟨c, hc, k', hk', rfl⟩
    · exact hk
    · by_cases h1 : k' = []
      · subst h1
        exact nil_mem_rKeys _
      · rw [List.dropLast_cons_of_ne_nil h1]
        exact (mem_rKeys_iff _ _).mpr (.inr ⟨c, hc, _, ih c hc _ hk', rfl⟩)


/-- all of the above after every history on a fresh router (well-formedness is an invariant, see C06_history) -/
theorem C13_history (rm : ρ → String → Bool) (ops : List (Op ρ)) (t : Node) (h : run rm emptyRouter ops = some t) :
    WF t ∧ t.name = "" := by
  obtain ⟨hs, hn⟩ := run_invariant rm ops emptyRouter t sorted_emptyRouter h
  exact ⟨hs.wf, hn⟩

/-! ### non-vacuity -/

namespace C13Example

def rmAll : Unit → String → Bool := fun _ _ => true

/-- /a/b/c and /a/ab subscribed then unsubscribed (dead), /b live, /a/x holds an invalidated observer (still counts) -/
def ops : List (Op Unit) :=
  [.subscribe ["a", "b", "c"] 1, .subscribe ["a", "ab"] 2, .subscribe ["b"] 3, .subscribe ["a", "x"] 4,
   .invalidate ["a", "x"] 4, .unsubscribe ["a", "b", "c"] 1, .unsubscribe ["a", "ab"] 2]

def tree : Node :=
  .mk "" none [.mk "a" none [.mk "ab" (some []) [], .mk "b" none [.mk "c" (some []) []], .mk "x" (some [⟨4, false⟩]) []],
               .mk "b" (some [⟨3, true⟩]) []]

theorem reached : run rmAll emptyRouter ops = some tree := by rfl
theorem tree_wf : WF tree := (C13_history rmAll ops tree reached).1

def wild2 : List (Level Unit) := [.re (), .re ()]
def wild3 : List (Level Unit) := [.re (), .re (), .re ()]

example : rKeys tree = [[], ["a"], ["a", "ab"], ["a", "b"], ["a", "b", "c"], ["a", "x"], ["b"]] := by rfl
-- a two-level wildcard shrink removes /a/ab (dead, childless, parent visited) and /a/b/c (a visited node erases its
-- empty children), then /a/b; /a/x keeps its not-yet-removed invalid observer; /b is live
example : rKeys (rShrink rmAll wild2 tree) = [[], ["a"], ["a", "x"], ["b"]] := by rfl
-- a one-level wildcard shrink cannot remove /a/b: its child /a/b/c lies below an unvisited node
example : rKeys (rShrink rmAll [.re ()] tree) = [[], ["a"], ["a", "b"], ["a", "b", "c"], ["a", "x"], ["b"]] := by rfl

example : (rNotify rmAll () wild2 (rShrink rmAll wild3 tree)).log = (rNotify rmAll () wild2 tree).log :=
  C13_shrink_invisible rmAll tree tree_wf wild3 wild2 ()

example : ["a", "x"] ∈ rKeys (rShrink rmAll wild3 tree) :=
  C13_keeps_live rmAll tree tree_wf rfl wild3 ["a", "x"] (by decide) ⟨(["a", "x"], some [⟨4, false⟩]), by decide, List.prefix_refl _, rfl⟩

example : ¬ RLive tree ["a", "ab"] ∧ prefixMatch rmAll wild2 ["a", "ab"].dropLast = true ∧ ["a", "ab"] ≠ [] :=
  C13_removes_only rmAll tree tree_wf rfl wild2 ["a", "ab"] (by decide) (by decide)

example : RLive tree ["b"] :=
  C13_full_wildcard rmAll tree tree_wf rfl wild2
    (fun l hl s => by simp only [wild2, List.mem_cons, List.mem_nil_iff, or_false, or_self] at hl; subst hl; rfl)
    (by decide) ["b"] (by decide) (by decide)

example : rExists rmAll [.str "a", .re (), .str "c"] tree = true :=
  (C13_exists rmAll tree tree_wf rfl _).mpr ⟨["a", "b", "c"], by decide, rfl⟩

example : ["a", "b"] ∈ rKeys tree := C13_prefix_closed tree ["a", "b", "c"] (by decide)
example : rDepth tree = 4 := by rfl
example : ∃ k ∈ rKeys tree, rDepth tree = k.length + 1 := (C13_depth tree).2

end C13Example

end Tulz
