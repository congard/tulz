import Tulz.Proofs.SubjectRound
/-
  C05 — Subject delivers to exactly the live, unmuted observers, in order.
  Model: Tulz/Model/Subject.lean (`World` = one Subject + the program's handle table + event trace).
  `calls` is the call log (observer id, argument) extracted from the trace; `α` is the argument pack.
-/
namespace Tulz
open Tulz.Subject

/-- `notify(args)` on a consistent subject whose callbacks only log: the call log is exactly the subscribed,
    valid, unmuted observers in subscription order with the value passed; ids are pairwise distinct, so each
    observer is called exactly once. -/
theorem C05_notify_log {α : Type} (lib : Nat → List Action) (fuel : Nat) (w : World α)
    (hwf : WF w) (hd : w.depth = 0) (hplain : Plain w) (a : α) :
    calls (evsSince w (notify lib fuel w a))
      = (w.order.filter (fun o => o.valid && !o.muted)).map (fun o => (o.id, a)) ∧
    (ids w.order).Nodup :=
  ⟨(notify_plain lib fuel hwf hd hplain a).1, by
    unfold World.order ids; rw [List.map_reverse]; exact (List.reverse_perm _).nodup_iff.2 hwf.nd_obs⟩

/-- An id that was issued (`i < counter`) and is unsubscribed or whose observer is invalid (`¬ Live`) occurs in
    no call log of any later history — whatever the callbacks do (arbitrary scripts, any nesting). -/
theorem C05_never_again {α : Type} (lib : Nat → List Action) (w : World α) (hwf : WF w) (hd : w.depth = 0)
    (i : Nat) (hi : i < w.counter) (hdead : ¬ Live w i) (ops : List (Op α)) (a : α) :
    (i, a) ∉ calls (evsSince w (run lib w ops)) :=
  never_again lib hwf hd hi hdead ops a

/-- … and "unsubscribed" / "invalidated" do imply `¬ Live`. -/
theorem C05_dead_cases {α : Type} (w : World α) (hwf : WF w) :
    (∀ i, i ∉ w.active → ¬ Live w i) ∧ (∀ o ∈ w.obs, o.valid = false → ¬ Live w o.id) :=
  ⟨fun _ h hl => h hl.1, fun _ ho hv => not_live_of_invalid hwf ho hv⟩

/-- `Subscription::isValid()` is true exactly for a handle of this subject whose observer is still subscribed,
    and for such a handle (held by the program) `isMuted()` reports that observer's mute flag. -/
theorem C05_handle_reports {α : Type} (w : World α) (hwf : WF w) (h : Handle) :
    (w.handleValid h = true ↔ h.subj = some w.sid ∧ ∃ o ∈ w.obs, h.id = some o.id) ∧
    (h ∈ w.handles → h.subj = some w.sid → ∀ o ∈ w.obs, h.id = some o.id → w.handleMuted h = some o.muted) := by
  constructor
  · unfold World.handleValid World.isSubscriptionValid
    constructor
    · intro hv
      cases hval : w.validId? h with
      | none => simp [hval] at hv
      | some i =>
        obtain ⟨hs, hid, hact⟩ := validId?_some hval
        obtain ⟨o, ho, hoi⟩ := mem_ids.1 ((hwf.act i).1 hact)
        exact ⟨hs, o, ho, by rw [hid, hoi]⟩
    · rintro ⟨hs, o, ho, hid⟩
      have hact : o.id ∈ w.active := (hwf.act _).2 (mem_ids.2 ⟨o, ho, rfl⟩)
      simp [World.validId?, hs, hid, hact]
  · intro hh hs o ho hid
    have hobs : h.obs = some o.id := (hwf.hs h hh hs).trans hid
    unfold World.handleMuted
    rw [hobs]
    simp [hwf.lookup_obs ho]

/-- Unsubscribing through a stale, cleared, moved-from or foreign handle throws and changes nothing. -/
theorem C05_reject_stale {α : Type} (lib : Nat → List Action) (w : World α) (hi : Nat) (h : Handle)
    (hh : w.handles[hi]? = some h) (hs : w.isSubscriptionValid h = false) :
    w.unsubscribe h = none ∧ step lib w (.unsubS hi) = (w, .invalidArg) := by
  have hv : w.validId? h = none := by
    unfold World.isSubscriptionValid at hs
    cases hval : w.validId? h with
    | none => rfl
    | some i => simp [hval] at hs
  have h1 : w.unsubscribe h = none := by unfold World.unsubscribe; rw [hv]
  refine ⟨h1, ?_⟩
  simp [step, hh, World.unsubSlot, h1]

/-- Unsubscribing through a valid handle removes exactly that id and clears the handle. -/
theorem C05_unsubscribe_ok {α : Type} (w : World α) (h : Handle) (i : Nat) (hv : w.validId? h = some i) :
    w.unsubscribe h = some (w.unsubscribeById i, Handle.null) ∧
    i ∉ (w.unsubscribeById i).active ∧ (∀ j, j ≠ i → (j ∈ (w.unsubscribeById i).active ↔ j ∈ w.active)) := by
  refine ⟨by unfold World.unsubscribe; rw [hv], ?_, ?_⟩
  · rw [(unsubById_frame w i).1, mem_eraseSet]; exact fun h => h.2 rfl
  · intro j hj; rw [(unsubById_frame w i).1, mem_eraseSet]; exact and_iff_left hj

/-! ### non-vacuity: a concrete reachable subject (3 observers, the 2nd muted at construction, the 3rd invalidated) -/

def c05Lib : Nat → List Action := fun _ => []
def c05World : World Nat :=
  run c05Lib { sid := 7 } [.sub [] false, .sub [] true, .sub [] false, .sub [] false, .inval 2, .unsubS 3, .hmove 0 3]

theorem c05World_wf : WF c05World ∧ c05World.depth = 0 :=
  have r := run_atTop c05Lib _ (WF.init (α := Nat) 7) rfl
  ⟨r.wf, r.depth⟩

theorem c05World_plain : Plain c05World := by unfold Plain; decide
-- C05_notify_log: the hypotheses hold and the log is non-trivial (observer 1 muted, 2 invalid, 3 unsubscribed)
example : calls (evsSince c05World (notify c05Lib 0 c05World 5)) = [(0, 5)] :=
  (C05_notify_log c05Lib 0 c05World c05World_wf.1 c05World_wf.2 c05World_plain 5).1.trans (by decide)
-- C05_never_again: id 3 was unsubscribed, id 2 is invalid
example : (3 < c05World.counter ∧ ¬ Live c05World 3) ∧ (2 < c05World.counter ∧ ¬ Live c05World 2) :=
  ⟨⟨by decide, (C05_dead_cases c05World c05World_wf.1).1 3 (by decide)⟩,
   ⟨by decide, (C05_dead_cases c05World c05World_wf.1).2 ⟨2, false, false, []⟩ (by decide) rfl⟩⟩
-- C05_handle_reports: handle 1 is valid and muted, handle 0 (moved-from, cleared) is not valid
example : c05World.handles[1]? = some ⟨some 1, some 7, some 1⟩ ∧ c05World.handleValid ⟨some 1, some 7, some 1⟩ = true ∧
    c05World.handleMuted ⟨some 1, some 7, some 1⟩ = some true ∧ c05World.handles[0]? = some Handle.null := by decide +kernel
-- C05_reject_stale: the cleared handle in slot 0 and a foreign handle are rejected
example : c05World.isSubscriptionValid Handle.null = false ∧ c05World.isSubscriptionValid ⟨some 0, some 8, some 0⟩ = false := by decide +kernel
-- C05_unsubscribe_ok
example : c05World.validId? ⟨some 1, some 7, some 1⟩ = some 1 := by decide +kernel

end Tulz
