import Tulz.Proofs.SubjectRound
/-
  C10 — Subject tolerates callbacks that change it during notify.
  Same model as C05, now with arbitrary callback scripts (`Action`s: subscribe, unsubscribe self/earlier/later via
  handle or subject, mute, unmute, invalidate via handle or SelfView, nested notify) and any nesting bound `fuel`.
  Memory safety is read off the event trace by the monitor `Mon` (touch / free / enter / exit of observer objects).
-/
namespace Tulz
open Tulz.Subject

/-- One outermost `notify`, any scripts, any nesting: from every monitor state that is consistent with the world
    (`MonInv`: nothing destroyed exists, no callback running) the monitor accepts all events of the call — no observer
    is touched after its destruction, none is destroyed twice, none is destroyed while its callback is on the stack,
    calls are balanced — and ends consistent with the new world; no dangling dereference happened (`ub` unchanged). -/
theorem C10_memory_safe {α : Type} (lib : Nat → List Action) (fuel : Nat) (w : World α)
    (hwf : WF w) (hd : w.depth = 0) (a : α) (m : Mon) (hm : MonInv w m) :
    (∃ m', m.run (evsSince w (notify lib fuel w a)) = some m' ∧ MonInv (notify lib fuel w a) m') ∧
    (notify lib fuel w a).ub = w.ub := by
  have t := (notify_atTop lib fuel hwf hd a).top
  obtain ⟨evs, ht, _, hmon⟩ := t.tr
  rw [evsSince_of_trace ht]
  exact ⟨hmon m hm, t.ub⟩

/-- Every history of top-level operations on a fresh subject (callbacks arbitrary): the monitor accepts the whole
    trace and no dangling dereference ever happens. -/
theorem C10_memory_safe_history {α : Type} (lib : Nat → List Action) (sid : Nat) (ops : List (Op α)) :
    (∃ m, Mon.run {} (run lib ({ sid := sid } : World α) ops).trace = some m ∧
          MonInv (run lib ({ sid := sid } : World α) ops) m) ∧
    (run lib ({ sid := sid } : World α) ops).ub = false :=
  history_safe lib sid ops

/-- The round visits the snapshot in order (`round (i :: is) w = round is (turn w i)`, by definition); at its turn
    an id is skipped entirely when it is no longer subscribed, it is not called when it is muted or invalid then,
    and it is called — first thing — when it is subscribed, valid and unmuted *then* (state `w` = the state the
    round has reached, after everything earlier callbacks did). `inner` is the nested notify, any depth. -/
theorem C10_round_semantics {α : Type} (lib : Nat → List Action) (inner : World α → α → World α)
    (hin : ∀ a, Good (fun w => inner w a)) (w : World α) (hwf : WF w) (hd : 0 < w.depth) (i : Nat) (is : List Nat) (a : α) :
    round lib inner (i :: is) w a = round lib inner is (turn lib inner w i a) a ∧
    (i ∉ w.active → turn lib inner w i a = w) ∧
    (i ∈ w.active → ¬ Eligible w i → calls (evsSince w (turn lib inner w i a)) = []) ∧
    (Eligible w i → ∃ rest, evsSince w (turn lib inner w i a) = .touch i :: .enter i a :: rest) :=
  ⟨rfl, turn_skipped lib inner w i a, fun hi hne => turn_not_called lib inner hwf hi hne a,
   fun he => turn_called lib hin hwf hd he a⟩

/-- `notify` is that round over the snapshot taken at entry, and the nested notify of every depth is `Good`. -/
theorem C10_notify_is_round {α : Type} (lib : Nat → List Action) (fuel : Nat) :
    ∃ inner : World α → α → World α, (∀ a, Good (fun w => inner w a)) ∧
      ∀ w a, notify lib fuel w a =
        (let r := round lib inner w.snapshot { w with depth := w.depth + 1 } a
         let r' : World α := { r with depth := r.depth - 1 }
         if r'.depth = 0 then r'.clearGrave else r') := by
  obtain ⟨inner, hin, e⟩ := notify_unfold (α := α) lib fuel
  exact ⟨inner, hin, fun w a => by rw [e]; rfl⟩

theorem mem_snapshot {α : Type} (w : World α) (i : Nat) : i ∈ w.snapshot ↔ i ∈ ids w.obs := by
  unfold World.snapshot ids; simp

/-- Observers subscribed during a round are not in its snapshot (their ids are new), and those still subscribed
    afterwards are in the snapshot of the next round. -/
theorem C10_new_not_in_round {α : Type} (lib : Nat → List Action) (fuel : Nat) (w : World α)
    (hwf : WF w) (hd : w.depth = 0) (a : α) :
    (∀ i ∈ w.snapshot, i < w.counter) ∧
    (∀ i, i ∈ (notify lib fuel w a).active →
      i ∈ w.active ∨ (w.counter ≤ i ∧ i ∉ w.snapshot ∧ i ∈ (notify lib fuel w a).snapshot)) := by
  have h1 : ∀ i ∈ w.snapshot, i < w.counter := fun i hi => hwf.lt i (Or.inl ((mem_snapshot w i).1 hi))
  refine ⟨h1, ?_⟩
  intro i hi
  have hobs : i ∈ ids (notify lib fuel w a).obs := ((notify_atTop lib fuel hwf hd a).wf.act i).1 hi
  rcases notify_fresh lib fuel hwf hd a i (Or.inl hobs) with h | h
  · rcases h with h | h
    · exact Or.inl ((hwf.act i).2 h)
    · rw [hwf.g0 hd] at h; cases h
  · exact Or.inr ⟨h, fun hs => absurd (h1 i hs) (Nat.not_lt.2 h), (mem_snapshot _ i).2 hobs⟩

/-- The subject is consistent after `notify`, for every set of scripts and every nesting depth — at top level … -/
theorem C10_wf_preserved {α : Type} (lib : Nat → List Action) (fuel : Nat) (w : World α)
    (hwf : WF w) (hd : w.depth = 0) (a : α) :
    WF (notify lib fuel w a) ∧ (notify lib fuel w a).depth = 0 :=
  have r := notify_atTop lib fuel hwf hd a
  ⟨r.wf, r.depth⟩

/-- … and when re-entered from a callback (depth > 0): nothing is destroyed then (`Ext`). -/
theorem C10_wf_nested {α : Type} (lib : Nat → List Action) (fuel : Nat) (w : World α)
    (hwf : WF w) (hd : 0 < w.depth) (a : α) :
    WF (notify lib fuel w a) ∧ (notify lib fuel w a).depth = w.depth ∧ Ext w (notify lib fuel w a) :=
  notify_good lib fuel a w hwf hd

/-- … and after every history of top-level operations. -/
theorem C10_wf_history {α : Type} (lib : Nat → List Action) (sid : Nat) (ops : List (Op α)) :
    WF (run lib ({ sid := sid } : World α) ops) ∧ (run lib ({ sid := sid } : World α) ops).depth = 0 :=
  have r := run_atTop lib ops (WF.init (α := α) sid) rfl
  ⟨r.wf, r.depth⟩

/-! ### non-vacuity: the scenarios of finding F4 and a re-entrant mix, executed -/

def c10Lib : Nat → List Action
  | 0 => [.invalSelf]
  | _ => []

/-- observer 0 unsubscribes itself (handle 0); observer 1 subscribes a self-invalidating observer, removes observer 2
    and re-enters notify; observer 2 would mute observer 0 -/
def c10World : World Nat :=
  run c10Lib { sid := 1 } [.sub [.unsubH 0] false, .sub [.sub 0 false, .unsubS 2, .notify] false, .sub [.mute 0] false]

theorem c10World_wf : WF c10World ∧ c10World.depth = 0 := C10_wf_history c10Lib 1 _

-- the hypotheses of C10_memory_safe hold for the empty monitor, and the round is non-trivial:
example : MonInv c10World {} := ⟨rfl, by intro i hi; simp at hi⟩
example : calls (evsSince c10World (notify c10Lib 2 c10World 9)) = [(0, 9), (1, 9), (1, 9), (1, 9), (3, 9), (4, 9)] := by decide +kernel
-- observers 0 and 2 (removed during the round) and 3, 4 (self-invalidated) are destroyed exactly at the end, after the last call
example : (evsSince c10World (notify c10Lib 2 c10World 9)).reverse.take 4 = [.free 0, .free 2, .free 3, .free 4] := by decide +kernel
example : (Mon.run {} (evsSince c10World (notify c10Lib 2 c10World 9))).isSome = true := by decide +kernel
-- C10_round_semantics: inside the round (depth 1) observer 0 is eligible, observer 2 is skipped once removed
example : Eligible ({ c10World with depth := 1 } : World Nat) 0 :=
  ⟨by decide, ⟨0, true, false, [.unsubH 0]⟩, by decide, rfl, rfl, rfl⟩
-- C10_new_not_in_round: ids 3.. are new
example : c10World.snapshot = [0, 1, 2] ∧ c10World.counter = 3 ∧ (notify c10Lib 2 c10World 9).snapshot = [1, 5] := by decide +kernel
-- the monitor does reject an unsafe trace (it is not vacuous): touch after free, free while running
example : Mon.run {} ([.free 0, .touch 0] : List (Ev Nat)) = none ∧
          Mon.run {} ([.enter 0 9, .free 0, .exit 0] : List (Ev Nat)) = none := by decide

end Tulz
