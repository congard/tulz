import Tulz.Model.Mem
/-
  Model of `tulz::RingBuffer<T, overwrite>` (include/tulz/container/RingBuffer.h),
  transcribed member by member.  Element storage is a list of `Slot`s (Mem.lean), so
  every placement-new / destructor / assignment / move the C++ performs is visible and
  *fails* in the model when it would be wrong in the C++ (C09).  The abstract
  specification is the bounded deque `Deque` at the end of the file (C04).

  Arithmetic: `modCap(a) = ((a % b) + b) % b` over `ssize_t` is used by the C++ in two
  shapes only, `m_pos + i` (i ≥ 0) and `m_pos - 1`; they are `(pos + i) % cap` and
  `(pos + cap - 1) % cap` over `Nat` (Props/C04.lean: `C04_modCap_signed` relates
  them to the signed expression `modCapI`).
-/
namespace Tulz

structure RB (α : Type) where
  pos : Nat
  size : Nat
  cap : Nat
  data : List (Slot α)
deriving Repr

namespace RB
variable {α : Type}

/-- `modCap` exactly as written: `((a % b) + b) % b` over `ssize_t` (C++ `%` truncates towards zero) -/
def modCapI (cap : Nat) (a : Int) : Int := (Int.tmod a cap + cap).tmod cap

/-- `dataIndex(i) = modCap(m_pos + i)` -/
def phys (b : RB α) (i : Nat) : Nat := (b.pos + i) % b.cap

/-- `explicit RingBuffer(size_t capacity)` -/
def new (cap : Nat) : RB α := ⟨0, 0, cap, Mem.alloc cap⟩

/-- state of a default-initialised object (members `{0}`, `{nullptr}`); what a moved-from buffer is -/
def zombie : RB α := ⟨0, 0, 0, []⟩

/-- `new (&m_data[i++]) T(element)` for each element of `vs`, starting at index `i` -/
def constructAll (d : List (Slot α)) (i : Nat) : List α → M (List (Slot α))
  | [] => pure d
  | v :: vs => do
    let d' ← Mem.construct d i v
    constructAll d' (i + 1) vs

/-- `RingBuffer(std::initializer_list<T>, size_t capacity = -1)` (`capacity = none` is the default -1) -/
def ofList (vs : List α) (capacity : Option Nat) : M (RB α) := do
  let cap := match capacity with | none => vs.length | some c => c
  let d ← constructAll (Mem.alloc cap) 0 vs
  pure ⟨0, vs.length, cap, d⟩

/-- `operator[]` -/
def get (b : RB α) (i : Nat) : M α := Mem.read b.data (b.phys i)

/-- `(*this)[frm], …, (*this)[frm+n-1]` read in order -/
def readRange (b : RB α) (frm : Nat) : Nat → M (List α)
  | 0 => pure []
  | n + 1 => do
    let v ← b.get frm
    let rest ← readRange b (frm + 1) n
    pure (v :: rest)

/-- iteration `begin() .. end()` through `RandomAccessIndexIterator` (each step is `operator[]`) -/
def toList (b : RB α) : M (List α) := b.readRange 0 b.size

/-- `front()` -/
def front (b : RB α) : M α :=
  if b.size = 0 then throw .assertion else b.get 0

/-- `back()` -/
def back (b : RB α) : M α :=
  if b.size = 0 then throw .assertion else b.get (b.size - 1)

/-- `emplace_back` / `push_back`; returns the buffer and the value of the returned reference -/
def emplaceBack (ow : Bool) (b : RB α) (x : α) : M (RB α × α) := do
  if !ow && !(b.size < b.cap) then throw .assertion        -- overwriteCheck
  if b.size = b.cap then
    -- overwrite: size remains unchanged, 1st element gets discarded
    let d ← Mem.assign b.data b.pos x
    let b' : RB α := { b with data := d, pos := (b.pos + 1) % b.cap }
    let r ← b'.back
    pure (b', r)
  else
    let d ← Mem.construct b.data (b.phys b.size) x
    let b' : RB α := { b with data := d, size := b.size + 1 }
    let r ← b'.back
    pure (b', r)

/-- `emplace_front` / `push_front` -/
def emplaceFront (ow : Bool) (b : RB α) (x : α) : M (RB α × α) := do
  if !ow && !(b.size < b.cap) then throw .assertion
  let p := (b.pos + b.cap - 1) % b.cap                     -- modCap(m_pos - 1)
  if b.size = b.cap then
    let d ← Mem.assign b.data p x
    let b' : RB α := { b with data := d, pos := p }
    let r ← b'.front
    pure (b', r)
  else
    let d ← Mem.construct b.data p x
    let b' : RB α := { b with data := d, pos := p, size := b.size + 1 }
    let r ← b'.front
    pure (b', r)

/-- `pop_back` -/
def popBack (b : RB α) : M (RB α × α) := do
  if b.size = 0 then throw .assertion
  let b1 : RB α := { b with size := b.size - 1 }
  let (v, d) ← Mem.moveOut b1.data (b1.phys b1.size)
  pure ({ b1 with data := d }, v)

/-- `pop_front` -/
def popFront (b : RB α) : M (RB α × α) := do
  if b.size = 0 then throw .assertion
  let (v, d) ← Mem.moveOut b.data b.pos
  pure ({ b with data := d, pos := (b.pos + 1) % b.cap, size := b.size - 1 }, v)

/-- the lambda `silentCopy(dst, n)`: the first `n` logical elements as two `memcpy`s -/
def silentCopy (b : RB α) (n : Nat) : List (Slot α) :=
  let n1 := min n (b.cap - b.pos)
  (b.data.drop b.pos).take n1 ++ (b.data.drop ((b.pos + n1) % b.cap)).take (n - n1)

/-- `modCap(m_pos + (ssize_t) m_size - 1)` -/
def lastIndex (b : RB α) : Nat := (b.pos + b.size + b.cap - 1) % b.cap

/-- destructor calls on the logical elements `from .. from+n-1` (`(*this)[from + i].~T()`) -/
def destroyRange (b : RB α) (d : List (Slot α)) (frm : Nat) : Nat → M (List (Slot α))
  | 0 => pure d
  | n + 1 => do
    let d' ← Mem.destroy d (b.phys frm)
    destroyRange b d' (frm + 1) n

/-- `resize(newCapacity)`; the second component says which branch ran (0 = no-op, 1 = realloc in place,
    2 = shrink with linearisation, 3 = grow with linearisation) — reported by the driver for coverage only -/
def resize (b : RB α) (nc : Nat) : M (RB α × Nat) :=
  if nc = b.cap then pure (b, 0)
  else if b.pos ≤ b.lastIndex ∧ b.lastIndex < nc then
    pure ({ b with cap := nc, data := b.data.take nc ++ List.replicate (nc - b.cap) .raw }, 1)
  else if nc < b.cap then do
    let c := min b.size nc
    let newData := b.silentCopy c ++ List.replicate (nc - c) .raw
    -- delete extra: logical elements c .. size-1 of the old block, which is then freed
    let _ ← destroyRange b b.data c (b.size - c)
    pure (⟨0, c, nc, newData⟩, 2)
  else
    pure (⟨0, b.size, nc, b.silentCopy b.size ++ List.replicate (nc - b.size) .raw⟩, 3)

/-- the body shared by the copy constructor and copy assignment after the old contents are gone -/
def copyFrom (other : RB α) : M (RB α) := do
  let vs ← other.toList
  let d ← constructAll (Mem.alloc other.cap) 0 vs
  pure ⟨0, other.size, other.cap, d⟩

/-- `~RingBuffer()`: destroy every logical element, free the block; returns the block as it is freed -/
def destroyAll (b : RB α) : M (List (Slot α)) := destroyRange b b.data 0 b.size

/-- copy assignment between *distinct* objects (self-assignment returns early in the C++ and is
    handled by the store): destroy + free the old contents, then copy -/
def copyAssign (self other : RB α) : M (RB α) := do
  let _ ← self.destroyAll
  copyFrom other

/-- `operator==` : `std::equal(begin(), end(), other.begin(), other.end())` -/
def eq [DecidableEq α] (a b : RB α) : M Bool := do
  let xs ← a.toList
  let ys ← b.toList
  pure (decide (xs = ys))

end RB

/-! ### The specification: a bounded double-ended queue -/

structure Deque (α : Type) where
  cap : Nat
  items : List α
deriving Repr

namespace Deque
variable {α : Type}

def pushBack (d : Deque α) (x : α) : Deque α :=
  if d.items.length < d.cap then { d with items := d.items ++ [x] }
  else { d with items := d.items.tail ++ [x] }             -- full, overwriting: discard the front

def pushFront (d : Deque α) (x : α) : Deque α :=
  if d.items.length < d.cap then { d with items := x :: d.items }
  else { d with items := x :: d.items.dropLast }           -- full, overwriting: discard the back

def popBack (d : Deque α) : Deque α := { d with items := d.items.dropLast }
def popFront (d : Deque α) : Deque α := { d with items := d.items.tail }

def resize (d : Deque α) (nc : Nat) : Deque α := ⟨nc, d.items.take nc⟩

end Deque
end Tulz
