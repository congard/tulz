/-
  Transition system for tulz::ThreadPool (DESIGN.md 6.5; properties C07, C08).

  One owner thread executes a program of `start t | clear | stop` operations (restart after `stop` included);
  up to `max ≥ 1` non-expiring workers (`setExpiryTimeout(-1)`, so `isExpired` is constantly false) run
  `PooledRunnable::run`.  Granularity: one step per `m_queueMutex` / `m_poolMutex` critical section, per
  notification, per `join`, per task-body end and per `delete` of ThreadPool.cpp.  REPAIRED code of finding F6:
  `stop()` writes `m_isRunning = false` inside an `m_queueMutex` critical section (step `stop`), so that the flag
  write and a worker's evaluation of the wait predicate exclude each other.

    ThreadPool::start(Runnable*)     start      { m_isRunning = true; lock(queue) m_queue.emplace_back(t) }
                                     spawnYes/spawnNo   lock(pool) { if (max > m_pool.size()) new PooledThread … }
                                     notifyHit/notifyMiss   m_condition.notify_one()
    ThreadPool::clear()              clear      lock(queue) { delete all queued; m_queue.clear() }
    ThreadPool::stop()               stop       lock(queue) { m_isRunning = false }           -- the repair
                                     stopNotify m_condition.notify_all()
                                     joinOne*   lock(pool) { for thread : m_pool: thread->join(); delete thread }
                                     joinDone   m_pool.clear(); unlock(pool)
                                     stopClear  clear()
    PooledRunnable::run (worker)     workerExit / workerTake / workerPark : lock(queue) { wait predicate; … }
                                     workerRunEnd   runnable->run() returned
                                     workerDelete   delete runnable; loop

  `start()` writes `m_isRunning = true` before its queue critical section and without the mutex, but only when the flag is
  false, i.e. after a `stop()` returned, when every worker has been joined (invariant `Ctl.stopped_ok` with `OwnerAt` at
  `idle`: flag false and owner idle ⇒ stopped ⇒ the pool is empty): nobody can observe where that write happens, so the
  model folds it into the `start` step.  The spawn test `getActiveThreadCount() == getThreadCount()` is invariantly true for
  non-expiring workers (`Ctl.alive`: while the flag is true no pool thread has exited) and is not modelled.

  Core Lean only (the driver `tulzdrv` links this file).  The namespace is `TPool` (not `Pool`) because
  `Main.lean` opens `Tulz.Drv` and refers to `Pool.State` of the driver.
-/
namespace TPool

abbrev Task := Nat

inductive OwnerOp | start (t : Task) | clear | stop
deriving DecidableEq, Repr

inductive Owner
  | idle (todo : List OwnerOp)
  | spawn (todo : List OwnerOp)            -- start(): task enqueued, pool critical section pending
  | notifyOne (todo : List OwnerOp)        -- start(): notify_one pending
  | stopNotify (todo : List OwnerOp)       -- stop(): flag cleared (under the queue mutex), notify_all pending
  | join (rem : List Nat) (todo : List OwnerOp)   -- stop(): joining the pool's threads in order
  | clearQ (todo : List OwnerOp)           -- stop(): pool emptied, clear() pending
deriving DecidableEq, Repr

inductive Worker
  | check                                  -- about to take m_queueMutex and evaluate the wait predicate
  | parked (notified : Bool)               -- blocked in m_condition.wait (`true`: a notification is pending)
  | running (t : Task)                     -- inside runnable->run()
  | ran (t : Task)                         -- run() returned, `delete runnable` pending
  | exited
deriving DecidableEq, Repr

structure State where
  queue : List Task
  running : Bool                           -- m_isRunning
  pool : List Nat                          -- m_pool, as indices into ws
  ws : List Worker                         -- every worker thread ever spawned (exited ones stay)
  owner : Owner
  max : Nat                                -- m_maxThreadCount
  -- ghost history (projections of the event trace)
  submitted : List Task                    -- `submit t` events, in order
  runs : List Task                         -- `runBegin t` events, in order
  finished : List Task                     -- `runEnd t` events
  destroyed : List Task                    -- `destroy t` events
  dropped : List Task                      -- tasks destroyed by clear()/stop() while still queued
  stopped : Bool                           -- a stop() has returned and no start() was issued since
deriving DecidableEq, Repr

def wakeAll : Worker → Worker
  | .parked _ => .parked true
  | w => w

def Worker.awake : Worker → Bool           -- may evaluate the predicate now
  | .check => true
  | .parked true => true
  | _ => false

def destroyAll (s : State) : State :=
  { s with queue := [], destroyed := s.destroyed ++ s.queue, dropped := s.dropped ++ s.queue }

/-- the steps of the code (no spurious wake-up: a parked worker moves only after a notification) -/
inductive Step : State → State → Prop
  | start (s : State) (t todo) (ho : s.owner = .idle (.start t :: todo)) :
      Step s { s with queue := s.queue ++ [t], running := true, owner := .spawn todo,
                      submitted := s.submitted ++ [t], stopped := false }
  | spawnYes (s : State) (todo) (ho : s.owner = .spawn todo) (h : s.pool.length < s.max) :
      Step s { s with pool := s.pool ++ [s.ws.length], ws := s.ws ++ [.check], owner := .notifyOne todo }
  | spawnNo (s : State) (todo) (ho : s.owner = .spawn todo) (h : ¬ s.pool.length < s.max) :
      Step s { s with owner := .notifyOne todo }
  | notifyHit (s : State) (todo) (w : Nat) (ho : s.owner = .notifyOne todo) (hw : s.ws[w]? = some (.parked false)) :
      Step s { s with ws := s.ws.set w (.parked true), owner := .idle todo }
  | notifyMiss (s : State) (todo) (ho : s.owner = .notifyOne todo) (hn : ∀ w : Nat, s.ws[w]? ≠ some (Worker.parked false)) :
      Step s { s with owner := .idle todo }
  | clear (s : State) (todo) (ho : s.owner = .idle (.clear :: todo)) :
      Step s { destroyAll s with owner := .idle todo }
  | stop (s : State) (todo) (ho : s.owner = .idle (.stop :: todo)) :
      Step s { s with running := false, owner := .stopNotify todo }
  | stopNotify (s : State) (todo) (ho : s.owner = .stopNotify todo) :
      Step s { s with ws := s.ws.map wakeAll, owner := .join s.pool todo }
  | joinOne (s : State) (w rem todo) (ho : s.owner = .join (w :: rem) todo) (hw : s.ws[w]? = some .exited) :
      Step s { s with owner := .join rem todo }
  | joinDone (s : State) (todo) (ho : s.owner = .join [] todo) :
      Step s { s with pool := [], owner := .clearQ todo }
  | stopClear (s : State) (todo) (ho : s.owner = .clearQ todo) :
      Step s { destroyAll s with owner := .idle todo, stopped := true }
  | workerExit (s : State) (w wk) (hw : s.ws[w]? = some wk) (ha : wk.awake = true) (hr : s.running = false) :
      Step s { s with ws := s.ws.set w .exited }
  | workerTake (s : State) (w wk t q) (hw : s.ws[w]? = some wk) (ha : wk.awake = true) (hr : s.running = true)
      (hq : s.queue = t :: q) :
      Step s { s with queue := q, ws := s.ws.set w (.running t), runs := s.runs ++ [t] }
  | workerPark (s : State) (w wk) (hw : s.ws[w]? = some wk) (ha : wk.awake = true) (hr : s.running = true)
      (hq : s.queue = []) :
      Step s { s with ws := s.ws.set w (.parked false) }
  | workerRunEnd (s : State) (w t) (hw : s.ws[w]? = some (.running t)) :
      Step s { s with ws := s.ws.set w (.ran t), finished := s.finished ++ [t] }
  | workerDelete (s : State) (w t) (hw : s.ws[w]? = some (.ran t)) :
      Step s { s with ws := s.ws.set w .check, destroyed := s.destroyed ++ [t] }

/-- steps of the environment-inclusive system: the code's steps plus spurious wake-ups of parked workers
    (allowed by pthreads).  Reachability — hence every safety theorem — is over `SStep`. -/
inductive SStep : State → State → Prop
  | code {s t} : Step s t → SStep s t
  | spurious (s : State) (w : Nat) (hw : s.ws[w]? = some (.parked false)) :
      SStep s { s with ws := s.ws.set w (.parked true) }

def init (max : Nat) (prog : List OwnerOp) : State :=
  { queue := [], running := true, pool := [], ws := [], owner := .idle prog, max := max,
    submitted := [], runs := [], finished := [], destroyed := [], dropped := [], stopped := false }

inductive Reach (max : Nat) (prog : List OwnerOp) : State → Prop
  | init : Reach max prog (init max prog)
  | step {s t} : Reach max prog s → SStep s t → Reach max prog t

theorem Reach.code {max prog s t} (h : Reach max prog s) (hs : Step s t) : Reach max prog t :=
  Reach.step h (SStep.code hs)

/-! ### executable step function (what the driver runs)

  Given the thread that moves — and, for `notify_one`, which waiter the condition variable picked — the step is
  determined by the thread's program counter and the shared state. -/

inductive Label
  | owner (woken : Option Nat)             -- `some w` only for a notify_one that wakes worker `w`
  | worker (w : Nat)
deriving DecidableEq, Repr

def noneAsleep (ws : List Worker) : Bool := ws.all fun w => w != .parked false

def ownerStep? (s : State) (woken : Option Nat) : Option State :=
  match s.owner, woken with
  | .idle (.start t :: todo), none =>
      some { s with queue := s.queue ++ [t], running := true, owner := .spawn todo,
                    submitted := s.submitted ++ [t], stopped := false }
  | .idle (.clear :: todo), none => some { destroyAll s with owner := .idle todo }
  | .idle (.stop :: todo), none => some { s with running := false, owner := .stopNotify todo }
  | .spawn todo, none =>
      if s.pool.length < s.max then
        some { s with pool := s.pool ++ [s.ws.length], ws := s.ws ++ [.check], owner := .notifyOne todo }
      else some { s with owner := .notifyOne todo }
  | .notifyOne todo, some w =>
      if s.ws[w]? = some (.parked false) then some { s with ws := s.ws.set w (.parked true), owner := .idle todo }
      else none
  | .notifyOne todo, none => if noneAsleep s.ws then some { s with owner := .idle todo } else none
  | .stopNotify todo, none => some { s with ws := s.ws.map wakeAll, owner := .join s.pool todo }
  | .join (w :: rem) todo, none => if s.ws[w]? = some .exited then some { s with owner := .join rem todo } else none
  | .join [] todo, none => some { s with pool := [], owner := .clearQ todo }
  | .clearQ todo, none => some { destroyAll s with owner := .idle todo, stopped := true }
  | _, _ => none

/-- the critical section of an awake worker: wait predicate and what follows it -/
def awakeStep (s : State) (w : Nat) : State :=
  if s.running = false then { s with ws := s.ws.set w .exited }
  else match s.queue with
    | [] => { s with ws := s.ws.set w (.parked false) }
    | t :: q => { s with queue := q, ws := s.ws.set w (.running t), runs := s.runs ++ [t] }

def workerStep? (s : State) (w : Nat) : Option State :=
  match s.ws[w]? with
  | some .check => some (awakeStep s w)
  | some (.parked true) => some (awakeStep s w)
  | some (.running t) => some { s with ws := s.ws.set w (.ran t), finished := s.finished ++ [t] }
  | some (.ran t) => some { s with ws := s.ws.set w .check, destroyed := s.destroyed ++ [t] }
  | _ => none

def xstep? (s : State) : Label → Option State
  | .owner woken => ownerStep? s woken
  | .worker w => workerStep? s w

/-- replay of a label sequence -/
def xrun? (s : State) : List Label → Option State
  | [] => some s
  | l :: ls => match xstep? s l with
    | some t => xrun? t ls
    | none => none

end TPool
